import Driver.Util
import ZixModel.Model.Avl
import ZixModel.Spec.AvlAlloc
namespace Driver.C06
open Zix.Avl

def dump : T → Nat → List String
  | .nil, _ => []
  | .node l i k b r, p => s!"{i}:{k}:{b}:{p}" :: (dump l i ++ dump r i)

/-- allocator events as the tracking allocator logs them: the header comes from malloc, nodes from calloc -/
def fmtEv : Zix.C08Avl.AEv → String
  | .alloc b => if b = 1 then "M1" else s!"C{b}"
  | .refused => "C0"
  | .free b => s!"f{b}"

def fmtEvs (es : List Zix.C08Avl.AEv) : String := "ev[" ++ " ".intercalate (es.map fmtEv) ++ "]"

def wbE (t : Tree) (cmps : Nat) (es : List Zix.C08Avl.AEv) : String :=
  s!" | size={t.size} cmp={cmps} {fmtEvs es} [{" ".intercalate (dump t.root 0)}]"

def wb (t : Tree) (cmps : Nat) : String := wbE t cmps []

def depthOf (id : Nat) : T → Nat → Option Nat
  | .nil, _ => none
  | .node l i _ _ r, d => if i = id then some d else (depthOf id l (d + 1)).orElse (fun _ => depthOf id r (d + 1))

/-- comparator calls made by `zix_tree_insert` on the way down -/
def insertCmps (dups : Bool) (e : Int) : T → Nat → Nat
  | .nil, n => n
  | .node l _ k _ r, n =>
    if e < k then insertCmps dups e l (n + 1)
    else if e > k ∨ dups then insertCmps dups e r (n + 1)
    else n + 1

def keyOfId (id : Nat) : List (Nat × Int) → Option Int
  | [] => none
  | (i, k) :: rest => if i = id then some k else keyOfId id rest

def ids (l : List (Nat × Int)) : String := " ".intercalate (l.map (fun p => toString p.1))

/-- `~k` = the (k mod size)-th node in order, or a literal id -/
def refId (t : Tree) (tok : String) : Option Nat :=
  if tok.startsWith "~" then
    match (tok.drop 1).toString.toNat? with
    | some k => let io := t.root.inorder; if io.isEmpty then none else (io[k % io.length]?).map (·.1)
    | none => none
  else tok.toNat?

def step (t : Tree) (ws : List String) : Tree × String :=
  match ws with
  | ["new", d] => let t' := Tree.new (d == "1"); (t', "new" ++ wbE t' 0 Zix.C08Avl.newEvents)
  | ["ins", k] =>
    match k.toInt? with
    | some e =>
      let (t', st, id) := t.insert e
      let cmps' := insertCmps t.dups e t.root 0
      let o := (Zix.C06.treeStep t (.ins e)).2
      (t', s!"st={if st == .success then "SUCCESS" else "EXISTS"} it={id} size={t'.size}" ++ wbE t' cmps' (Zix.C08Avl.evOf (.ins e) o))
    | none => (t, "bad-op")
  | ["newfail"] => (t, "newfail=NULL" ++ (wbE t 0 []).replace "ev[]" "ev[M0]")
  | ["insfail", k] =>
    match k.toInt? with
    | some e =>
      match t.insertMayFail e false with
      | (t', some (_, id)) => (t', s!"st=EXISTS it={id} size={t'.size}" ++ wb t' (insertCmps t.dups e t.root 0))
      | (t', none) => (t', s!"st=NO_MEM it=0 size={t'.size}" ++ wbE t' (insertCmps t.dups e t.root 0) (Zix.C08Avl.evOf (.insFail e) (Zix.C06.treeStep t (.insFail e)).2))
    | none => (t, "bad-op")
  | ["find", k] =>
    match k.toInt? with
    | some e =>
      let (r, n) := find e t.root 0
      -- with duplicates any equal element may be returned: only the key is API-visible
      let keyOf := match r with | some i => keyOfId i t.root.inorder | none => none
      (t, (match keyOf with | some k => s!"st=SUCCESS key={k}" | none => "st=NOT_FOUND key=NULL") ++ wb t n
          ++ (match r with | some i => s!" it={i}" | none => ""))
    | none => (t, "bad-op")
  | ["rm", r] =>
    match refId t r with
    | some id =>
      match t.remove id with
      | some t' => (t', s!"st=SUCCESS removed={id} size={t'.size}" ++ wbE t' 0 (Zix.C08Avl.evOf (.rm id) (Zix.C06.treeStep t (.rm id)).2))
      | none => (t, "bad-op")
    | none => (t, "bad-op")
  | ["walk"] =>
    let io := t.root.inorder
    (t, s!"fwd=[{ids io}] bwd=[{ids io.reverse}] keys=[{" ".intercalate (io.map (fun p => toString p.2))}]" ++ wb t 0)
  | ["free"] =>
    let po := t.root.postorder
    let t' := Tree.new t.dups
    (t', s!"destroyed={po.length} order=[{ids po}] | {fmtEvs (Zix.C08Avl.freeEvents t)}")
  | _ => (t, "bad-op")

end Driver.C06

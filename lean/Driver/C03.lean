import Driver.Util
import ZixModel.Model.Hash
import ZixModel.Spec.HashAlloc
namespace Driver.C03
open Zix.Hash

structure St where
  t : Table
  keys : List (Nat × Nat)     -- record id → key id
  failNext : Bool             -- the next allocation request is refused
  blocks : Zix.C08Hash.Blocks := Zix.C08Hash.Blocks.start   -- ghost allocator state

def St.keyOf (s : St) (r : Nat) : Nat := (s.keys.lookup r).getD 0

def fmtSlot : Slot → String
  | .empty => "e"
  | .tomb => "t"
  | .live c r => s!"{c}:{r}"

def fmtEv : Ev → String
  | .hash k => s!"H{k}"
  | .key r => s!"K{r}"
  | .eq a b => s!"E{a},{b}"

def fmtStatus : Status → String
  | .success => "SUCCESS" | .exists_ => "EXISTS" | .notFound => "NOT_FOUND" | .noMem => "NO_MEM" | .badArg => "BAD_ARG"

def wb (t : Table) (evs : List Ev) : String :=
  s!" | n={t.n} count={t.count} [{" ".intercalate (t.slots.map fmtSlot)}] cb[{" ".intercalate (evs.map fmtEv)}]"

/-- allocator events as the tracking allocator logs them: the header comes from malloc, entry arrays from calloc -/
def fmtA : Zix.C08Hash.AEv → String
  | .alloc b => if b = 1 then "M1" else s!"C{b}"
  | .refused => "C0"
  | .free b => s!"f{b}"

def fmtAs (es : List Zix.C08Hash.AEv) : String := " ev[" ++ " ".intercalate (es.map fmtA) ++ "]"

def optS (o : Option Nat) : String := match o with | some r => toString r | none => "NULL"

def step (s : St) (ws : List String) : St × String :=
  let allocOk := !s.failNext
  match ws with
  | ["new"] => let s' : St := { t := new, keys := [], failNext := false }; (s', "new" ++ wb s'.t [] ++ fmtAs Zix.C08Hash.newEvents)
  | ["failnext"] => ({ s with failNext := true }, "failnext")
  | ["newfail", k] =>
    -- a second table whose creation fails at its k-th allocation request: nothing is kept; a header that was obtained
    -- (k = 1) takes the next block id and is released again
    if k == "0" then (s, "newfail=NULL" ++ wb s.t [] ++ " ev[M0]")
    else if k == "1" then
      let n := s.blocks.next
      ({ s with blocks := { s.blocks with next := n + 1 } }, "newfail=NULL" ++ wb s.t [] ++ s!" ev[M{n} C0 f{n}]")
    else (s, "bad-op")
  | ["ins", r, k, c] | ["pins", r, k, c] | ["pinsp", r, k, c] =>
    match r.toNat?, k.toNat?, c.toNat? with
    | some r, some k, some c =>
      let s1 := { s with keys := (r, k) :: s.keys.filter (·.1 ≠ r) }
      let (t', st, evs) := insert s1.keyOf s1.t r c allocOk
      -- the two-step variants call key_func/hash_func themselves (harness), same events
      let e := Zix.C08Hash.callEvents s.blocks (st == .noMem) (decide (t'.n ≠ s.t.n))
      let s2 := { s1 with t := t', failNext := false, blocks := e.1 }
      (s2, s!"st={fmtStatus st} size={t'.count}" ++ wb t' evs ++ fmtAs e.2)
    | _, _, _ => (s, "bad-op")
  | ["find", k, c] =>
    match k.toNat?, c.toNat? with
    | some k, some c =>
      let (r, evs) := find s.keyOf s.t k c
      let it := match r with | some i => s!"rec={optS (recordAt s.t i)}" | none => "rec=END"
      (s, it ++ wb s.t evs ++ fmtAs [] ++ (match r with | some i => s!" it={i}" | none => ""))
    | _, _ => (s, "bad-op")
  | ["findr", k, c] =>
    match k.toNat?, c.toNat? with
    | some k, some c =>
      let (r, evs) := find s.keyOf s.t k c
      let found := match r with | some i => recordAt s.t i | none => none
      (s, s!"rec={optS found}" ++ wb s.t evs ++ fmtAs [])
    | _, _ => (s, "bad-op")
  | ["rm", k, c] | ["erase", k, c] =>
    match k.toNat?, c.toNat? with
    | some k, some c =>
      let (t', st, r, evs) := remove s.keyOf s.t k c allocOk
      let e := Zix.C08Hash.callEvents s.blocks (st == .noMem) (decide (t'.n ≠ s.t.n))
      let s' := { s with t := t', failNext := false, blocks := e.1 }
      (s', s!"st={fmtStatus st} removed={optS r} size={t'.count}" ++ wb t' evs ++ fmtAs e.2)
    | _, _ => (s, "bad-op")
  | ["eraseat", i] =>
    -- zix_hash_erase at an arbitrary iterator value ("end" = the end iterator)
    match (if i == "end" then some s.t.n else i.toNat?) with
    | some i =>
      let (t', st, r, evs) := eraseAt s.keyOf s.t i allocOk
      let e := Zix.C08Hash.callEvents s.blocks (st == .noMem) (decide (t'.n ≠ s.t.n))
      let s' := { s with t := t', failNext := false, blocks := e.1 }
      (s', s!"st={fmtStatus st} removed={optS r} size={t'.count}" ++ wb t' evs ++ fmtAs e.2)
    | none => (s, "bad-op")
  | ["iter"] => (s, s!"iter={(iterate s.t).map toString |> " ".intercalate} size={s.t.count}" ++ wb s.t [] ++ fmtAs [])
  | _ => (s, "bad-op")

end Driver.C03

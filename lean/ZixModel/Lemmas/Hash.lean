import ZixModel.Spec.Hash
/-! Lemmas for C03 (hash table).  The probe loops `findEntry` and `planInsert` are characterised
together: both end at the first stopping position of the cyclic path (`walk_spec`, `StopsAt`).  The
slot-level invariant `SInv` is kept by storing a record at the end of its probe path, by tombstoning
and by rehashing.

In a table of `n` slots the probe path from `start` visits, at position `d`, the index
`(start + d) % n` (`idx` in lemma names); index `i` lies at position `(i + n - start) % n`
(`dist`). -/
namespace Zix.Hash
open Zix.Generated

theorem idx_lt {n start d : Nat} (hs : start < n) : (start + d) % n < n :=
  Nat.mod_lt _ (Nat.zero_lt_of_lt hs)

theorem dist_lt {n start i : Nat} (hs : start < n) : (i + n - start) % n < n :=
  Nat.mod_lt _ (Nat.zero_lt_of_lt hs)

theorem dist_idx {n start e : Nat} (hs : start < n) (he : e < n) :
    ((start + e) % n + n - start) % n = e := by
  rw [Nat.add_sub_assoc (Nat.le_of_lt hs), Nat.mod_add_mod,
    show start + e + (n - start) = e + n by omega, Nat.add_mod_right, Nat.mod_eq_of_lt he]

theorem idx_dist {n start i : Nat} (hs : start < n) (hi : i < n) :
    (start + (i + n - start) % n) % n = i := by
  rw [Nat.add_mod_mod, show start + (i + n - start) = i + n by omega, Nat.add_mod_right,
    Nat.mod_eq_of_lt hi]

theorem idx_inj {n start e e' : Nat} (hs : start < n) (he : e < n) (he' : e' < n)
    (h : (start + e) % n = (start + e') % n) : e = e' := by
  rw [← dist_idx hs he, ← dist_idx hs he', h]

theorem nextIndex_eq {n i : Nat} (h : i < n) : nextIndex n i = (i + 1) % n := by
  fun_cases nextIndex n i with
  | case1 h' => rw [h', Nat.mod_self]
  | case2 => rw [Nat.mod_eq_of_lt (by omega)]

theorem nextIndex_idx {n start d : Nat} (hs : start < n) :
    nextIndex n ((start + d) % n) = (start + (d + 1)) % n := by
  rw [nextIndex_eq (idx_lt hs), Nat.mod_add_mod, Nat.add_assoc]

theorem idx_succ_eq_start {n start d : Nat} (hs : start < n) (hd : d < n) :
    (start + (d + 1)) % n = start ↔ d + 1 = n := by
  constructor
  · intro h
    apply Classical.byContradiction
    intro hne
    have := idx_inj (e := d + 1) (e' := 0) hs (by omega) (by omega)
      (by rw [h, Nat.add_zero, Nat.mod_eq_of_lt hs])
    omega
  · intro h; rw [h, Nat.add_mod_right, Nat.mod_eq_of_lt hs]

theorem fold_lt {c n : Nat} (h : 0 < n) : fold c n < n := Nat.mod_lt _ h

theorem getD_of_length_le {l : List Slot} {i : Nat} (h : l.length ≤ i) :
    l.getD i .empty = .empty := by
  rw [List.getD_eq_getElem?_getD, List.getElem?_eq_none h]; rfl

theorem lt_of_getD_live {l : List Slot} {i c r : Nat} (h : l.getD i .empty = .live c r) :
    i < l.length :=
  Nat.lt_of_not_le fun hi => nomatch (getD_of_length_le hi).symm.trans h

theorem getD_live_iff {l : List Slot} {i c r : Nat} :
    l[i]? = some (.live c r) ↔ l.getD i .empty = .live c r := by
  rw [List.getD_eq_getElem?_getD]
  cases l[i]? with
  | none => exact ⟨nofun, nofun⟩
  | some s => exact Option.some_inj

theorem of_getD_set {l : List Slot} {i j : Nat} {x s : Slot} (h : (l.set i x).getD j .empty = s) :
    l.getD j .empty = s ∨ (j = i ∧ x = s) := by
  rw [List.getD_eq_getElem?_getD] at h
  by_cases hij : i = j
  · subst hij
    by_cases hi : i < l.length
    · rw [List.getElem?_set_self hi] at h; exact Or.inr ⟨rfl, h⟩
    · rw [List.set_eq_of_length_le (Nat.le_of_not_lt hi)] at h; exact Or.inl h
  · rw [List.getElem?_set_ne hij] at h; exact Or.inl h

/-- what the walks look for: a record stored under the probe's hash code with the probe's key -/
def Match (keyOf : Nat → Nat) (key code : Nat) (s : Slot) : Prop :=
  ∃ r, s = .live code r ∧ keyOf r = key

/-- `findEntry` and `planInsert` stop at this slot -/
def Stop (keyOf : Nat → Nat) (key code : Nat) (s : Slot) : Prop :=
  s = .empty ∨ Match keyOf key code s

def IsLive (s : Slot) : Prop := ∃ c r, s = .live c r

def PathAll (slots : List Slot) (start d : Nat) (p : Slot → Prop) : Prop :=
  ∀ e, e < d → p (slots.getD ((start + e) % slots.length) .empty)

theorem PathAll.succ {slots : List Slot} {start d : Nat} {p : Slot → Prop}
    (h : PathAll slots start d p)
    (hd : p (slots.getD ((start + d) % slots.length) .empty)) : PathAll slots start (d + 1) p := by
  intro e he
  rcases Nat.lt_succ_iff_lt_or_eq.1 he with he | rfl
  · exact h e he
  · exact hd

def PathFull (slots : List Slot) (start i : Nat) : Prop :=
  PathAll slots start ((i + slots.length - start) % slots.length) (· ≠ .empty)

theorem PathFull.set {slots : List Slot} {start i j : Nat} {x : Slot} (hx : x ≠ .empty)
    (h : PathFull slots start i) : PathFull (slots.set j x) start i := by
  intro e he hemp
  rw [List.length_set] at he hemp
  rcases of_getD_set hemp with h' | ⟨_, h'⟩
  · exact h e he h'
  · exact hx h'

theorem PathFull.of_live {slots : List Slot} {start p : Nat} (hs : start < slots.length)
    (hp : p < slots.length)
    (hlive : PathAll slots start p IsLive) : PathFull slots start ((start + p) % slots.length) := by
  intro e he
  rw [dist_idx hs hp] at he
  obtain ⟨c, r, hl⟩ := hlive e he
  rw [hl]; exact Slot.noConfusion

/-- What a visit to slot `s` adds to the log: the two callbacks on a record with the probe's
code. -/
def visit (keyOf : Nat → Nat) (key code : Nat) (evs : List Ev) : Slot → List Ev
  | .live c r => if c = code then evs ++ [.key r, .eq (keyOf r) key] else evs
  | _ => evs

/-- The first-tombstone register after the walk has passed slot `s` at index `i`. -/
def noteTomb (i : Nat) (ft : Option Nat) : Slot → Option Nat
  | .tomb => if ft.isNone then some i else ft
  | _ => ft

/-- Where `planInsert` puts the record: at the match, else at the first tombstone passed, else
where the walk stopped (`start` after a whole cycle). -/
def planPos (slots : List Slot) (start res : Nat) (ft : Option Nat) : Nat :=
  match slots.getD res .empty with
  | .live _ _ => res
  | _ => ft.getD (if res < slots.length then res else start)

theorem planPos_live {slots : List Slot} {start res c r : Nat} {ft : Option Nat}
    (h : slots.getD res .empty = .live c r) : planPos slots start res ft = res := by
  unfold planPos; rw [h]

theorem planPos_empty {slots : List Slot} {start res : Nat} {ft : Option Nat}
    (h : slots.getD res .empty = .empty) :
    planPos slots start res ft = ft.getD (if res < slots.length then res else start) := by
  unfold planPos; rw [h]

theorem planPos_end (slots : List Slot) (start : Nat) (ft : Option Nat) :
    planPos slots start slots.length ft = ft.getD start := by
  rw [planPos_empty (getD_of_length_le (Nat.le_refl _)), if_neg (Nat.lt_irrefl _)]

/-! One step of each walk in two cases, stop and pass: the model's arms for a tombstone, a record
with another code and a record with the code and another key all pass, and differ only in `visit`
and `noteTomb`. -/

theorem findEntry_stop {keyOf : Nat → Nat} {slots : List Slot} {key code start fuel i : Nat}
    {evs : List Ev} {s : Slot} (hs : slots.getD i .empty = s) (h : Stop keyOf key code s) :
    findEntry keyOf slots key code start (fuel + 1) i evs =
      some (i, visit keyOf key code evs s) := by
  rw [findEntry, hs]
  rcases h with rfl | ⟨r, rfl, hk⟩
  · rfl
  · simp only [visit, if_pos hk, ↓reduceIte]

theorem findEntry_pass {keyOf : Nat → Nat} {slots : List Slot} {key code start fuel i : Nat}
    {evs : List Ev} {s : Slot} (hs : slots.getD i .empty = s) (h : ¬ Stop keyOf key code s) :
    findEntry keyOf slots key code start (fuel + 1) i evs =
      if nextIndex slots.length i = start then some (slots.length, visit keyOf key code evs s)
      else findEntry keyOf slots key code start fuel (nextIndex slots.length i)
        (visit keyOf key code evs s) := by
  rw [findEntry, hs]
  cases s with
  | empty => exact absurd (Or.inl rfl) h
  | tomb => rfl
  | live c r =>
    dsimp only [visit]
    by_cases hc : c = code
    · have hk : keyOf r ≠ key := fun hk => h (Or.inr ⟨r, hc ▸ rfl, hk⟩)
      rw [if_pos hc, if_neg hk, if_pos hc]
    · rw [if_neg hc, if_neg hc]

theorem planInsert_stop {keyOf : Nat → Nat} {slots : List Slot} {key code start fuel i : Nat}
    {ft : Option Nat} {evs : List Ev} {s : Slot} (hs : slots.getD i .empty = s)
    (h : Stop keyOf key code s) :
    planInsert keyOf slots key code start (fuel + 1) i ft evs =
      some (if s = .empty then ft.getD i else i, visit keyOf key code evs s) := by
  rw [planInsert, hs]
  rcases h with rfl | ⟨r, rfl, hk⟩
  · rfl
  · simp only [visit, if_pos hk, ↓reduceIte, reduceCtorEq]

theorem planInsert_pass {keyOf : Nat → Nat} {slots : List Slot} {key code start fuel i : Nat}
    {ft : Option Nat} {evs : List Ev} {s : Slot} (hs : slots.getD i .empty = s)
    (h : ¬ Stop keyOf key code s) :
    planInsert keyOf slots key code start (fuel + 1) i ft evs =
      if nextIndex slots.length i = start
      then some ((noteTomb i ft s).getD (nextIndex slots.length i), visit keyOf key code evs s)
      else planInsert keyOf slots key code start fuel (nextIndex slots.length i) (noteTomb i ft s)
        (visit keyOf key code evs s) := by
  rw [planInsert, hs]
  cases s with
  | empty => exact absurd (Or.inl rfl) h
  | tomb => rfl
  | live c r =>
    dsimp only [visit, noteTomb]
    by_cases hc : c = code
    · have hk : keyOf r ≠ key := fun hk => h (Or.inr ⟨r, hc ▸ rfl, hk⟩)
      rw [if_pos hc, if_neg hk, if_pos hc]
    · rw [if_neg hc, if_neg hc]

/-- `ft` is the first tombstone among the first `d` positions of the path (`none`: all are live) -/
def FirstTomb (slots : List Slot) (start d : Nat) : Option Nat → Prop
  | none => PathAll slots start d IsLive
  | some f => ∃ p, p < d ∧ f = (start + p) % slots.length ∧ slots.getD f .empty = .tomb ∧
      PathAll slots start p IsLive

/-- The walk has stopped at path position `e`, the first stopping position (`e = slots.length`:
there is none, it went round), with result `res` and first tombstone `ft`. -/
structure StopsAt (keyOf : Nat → Nat) (slots : List Slot) (key code start e res : Nat)
    (ft : Option Nat) : Prop where
  noStop : PathAll slots start e (¬ Stop keyOf key code ·)
  firstTomb : FirstTomb slots start e ft
  res : e < slots.length ∧ res = (start + e) % slots.length ∧
      Stop keyOf key code (slots.getD res .empty) ∨
    e = slots.length ∧ res = slots.length

theorem FirstTomb.succ {slots : List Slot} {start d : Nat} {ft : Option Nat} {s : Slot}
    (h : FirstTomb slots start d ft) (hs : slots.getD ((start + d) % slots.length) .empty = s)
    (hne : s ≠ .empty) :
    FirstTomb slots start (d + 1) (noteTomb ((start + d) % slots.length) ft s) := by
  cases ft with
  | some f =>
    obtain ⟨p, hp, h⟩ := h
    have : FirstTomb slots start (d + 1) (some f) := ⟨p, Nat.lt_succ_of_lt hp, h⟩
    cases s <;> exact this
  | none =>
    cases s with
    | empty => exact absurd rfl hne
    | tomb => exact ⟨d, Nat.lt_succ_self d, rfl, hs, h⟩
    | live c r => exact PathAll.succ h ⟨c, r, hs⟩

theorem StopsAt.res_eq {keyOf slots key code start e res ft}
    (h : StopsAt keyOf slots key code start e res ft)
    {d : Nat} (hd : d < slots.length) (hnd : PathAll slots start d (¬ Stop keyOf key code ·))
    (hsd : Stop keyOf key code (slots.getD ((start + d) % slots.length) .empty)) :
    res = (start + d) % slots.length := by
  rcases Nat.lt_trichotomy e d with hlt | heq | hgt
  · rcases h.res with ⟨_, hre, hst⟩ | ⟨hen, _⟩
    · exact absurd (hre ▸ hst) (hnd e hlt)
    · omega
  · rcases h.res with ⟨_, hre, _⟩ | ⟨hen, _⟩
    · rw [hre, heq]
    · omega
  · exact absurd hsd (h.noStop d hgt)

/-- Both walks end at the first stopping position of the path; `planInsert` answers with `planPos`
of it.  `slots.length ≤ fuel + d` is the termination argument: a step costs one unit of fuel and
advances one position, and the cycle guard fires at position `slots.length`, so the fuel never runs
out first. -/
theorem walk_from (keyOf : Nat → Nat) (slots : List Slot) (key code start : Nat)
    (hs : start < slots.length) :
    ∀ fuel d ft evs, d < slots.length → slots.length ≤ fuel + d →
      PathAll slots start d (¬ Stop keyOf key code ·) → FirstTomb slots start d ft →
      ∃ e res ft' evs', StopsAt keyOf slots key code start e res ft' ∧
        findEntry keyOf slots key code start fuel ((start + d) % slots.length) evs
          = some (res, evs') ∧
        planInsert keyOf slots key code start fuel ((start + d) % slots.length) ft evs
          = some (planPos slots start res ft', evs') := by
  intro fuel
  induction fuel with
  | zero => intro d ft evs hd hf; omega
  | succ fuel ih =>
    intro d ft evs hd hf hns hft
    by_cases hst : Stop keyOf key code (slots.getD ((start + d) % slots.length) .empty)
    · refine ⟨d, _, ft, _, ⟨hns, hft, Or.inl ⟨hd, rfl, hst⟩⟩, findEntry_stop rfl hst, ?_⟩
      rw [planInsert_stop rfl hst]
      rcases hst with hemp | ⟨r, hm, _⟩
      · rw [planPos_empty hemp, if_pos (idx_lt hs), hemp, if_pos rfl]
      · rw [planPos_live hm, hm, if_neg Slot.noConfusion]
    · have hns' := hns.succ hst
      have hft' := hft.succ rfl fun h => hst (Or.inl h)
      rw [findEntry_pass rfl hst, planInsert_pass rfl hst, nextIndex_idx hs]
      by_cases hj : (start + (d + 1)) % slots.length = start
      · have hd1 := (idx_succ_eq_start hs hd).1 hj
        rw [if_pos hj, if_pos hj, hj, ← planPos_end slots start]
        exact ⟨_, _, _, _, ⟨hd1 ▸ hns', hd1 ▸ hft', Or.inr ⟨rfl, rfl⟩⟩, rfl, rfl⟩
      · rw [if_neg hj, if_neg hj]
        have hd1 : d + 1 < slots.length := by
          have := mt (idx_succ_eq_start hs hd).2 hj; omega
        exact ih (d + 1) _ _ hd1 (by omega) hns' hft'

/-- `walk_from` as the operations start the walks: at `start`, with the table size as fuel. -/
theorem walk_spec (keyOf : Nat → Nat) (slots : List Slot) (key code start : Nat)
    (hs : start < slots.length) (evs : List Ev) :
    ∃ e res ft evs', StopsAt keyOf slots key code start e res ft ∧
      findEntry keyOf slots key code start slots.length start evs = some (res, evs') ∧
      planInsert keyOf slots key code start slots.length start none evs
        = some (planPos slots start res ft, evs') := by
  have := walk_from keyOf slots key code start hs slots.length 0 none evs (by omega) (by omega)
    nofun nofun
  rwa [Nat.add_zero, Nat.mod_eq_of_lt hs] at this

/-- The record in a slot.  The match has the shape of the one in the model's `recordAt` and
`iterate`, so `recordAt t i` is `recOf` of slot `i` and `iterate t` is `liveList t.slots` by
definition. -/
def recOf : Slot → Option Nat
  | .live _ r => some r
  | _ => none

def liveList (slots : List Slot) : List Nat := slots.filterMap recOf

theorem iterate_eq (t : Table) : iterate t = liveList t.slots := rfl

theorem recOf_eq_some {s : Slot} {r : Nat} : recOf s = some r ↔ ∃ c, s = .live c r := by
  cases s <;> simp [recOf]

theorem recOf_eq_none {s : Slot} : recOf s = none ↔ ¬ IsLive s := by
  cases s <;> simp [recOf, IsLive]

theorem mem_iff_getD {l : List Slot} {c r : Nat} :
    Slot.live c r ∈ l ↔ ∃ i, l.getD i .empty = .live c r := by
  rw [List.mem_iff_getElem?]
  exact exists_congr fun i => getD_live_iff

theorem mem_liveList {l : List Slot} {r : Nat} :
    r ∈ liveList l ↔ ∃ i c, l.getD i .empty = .live c r := by
  unfold liveList
  rw [List.mem_filterMap]
  constructor
  · rintro ⟨s, hs, h⟩
    obtain ⟨c, rfl⟩ := recOf_eq_some.1 h
    obtain ⟨i, hi⟩ := mem_iff_getD.1 hs
    exact ⟨i, c, hi⟩
  · rintro ⟨i, c, h⟩
    exact ⟨_, mem_iff_getD.2 ⟨i, h⟩, rfl⟩

theorem liveList_cons (a : Slot) (l : List Slot) :
    liveList (a :: l) = (recOf a).toList ++ liveList l := by
  cases a <;> rfl

theorem of_mem_liveList_set {slots : List Slot} {i c r r' : Nat}
    (h : r' ∈ liveList (slots.set i (.live c r))) : r' = r ∨ r' ∈ liveList slots := by
  obtain ⟨j, c', h⟩ := mem_liveList.1 h
  rcases of_getD_set h with h | ⟨_, h⟩
  · exact Or.inr (mem_liveList.2 ⟨j, c', h⟩)
  · cases h; exact Or.inl rfl

theorem liveList_set_perm (l : List Slot) (i : Nat) (x : Slot) (hi : i < l.length) :
    ((recOf (l.getD i .empty)).toList ++ liveList (l.set i x)).Perm
      ((recOf x).toList ++ liveList l) := by
  fun_induction List.set l i x with
  | case1 a l x =>
    rw [List.getD_cons_zero, liveList_cons, liveList_cons]
    exact List.perm_append_comm_assoc _ _ _
  | case2 a l i x ih =>
    rw [List.getD_cons_succ, liveList_cons, liveList_cons]
    exact (List.perm_append_comm_assoc _ _ _).trans
      (((ih (Nat.lt_of_succ_lt_succ hi)).append_left _).trans (List.perm_append_comm_assoc _ _ _))
  | case3 => cases hi

theorem liveList_set_live_perm {l : List Slot} {i c r : Nat} (hi : i < l.length)
    (h : ¬ IsLive (l.getD i .empty)) : (liveList (l.set i (.live c r))).Perm (r :: liveList l) := by
  have := liveList_set_perm l i (.live c r) hi
  rwa [recOf_eq_none.2 h] at this

theorem liveList_set_tomb_perm {l : List Slot} {i c r : Nat} (h : l.getD i .empty = .live c r) :
    (r :: liveList (l.set i .tomb)).Perm (liveList l) := by
  have := liveList_set_perm l i .tomb (lt_of_getD_live h)
  rwa [h] at this

theorem liveList_replicate_empty (n : Nat) : liveList (List.replicate n Slot.empty) = [] :=
  List.filterMap_replicate_of_none rfl

theorem getD_replicate_empty (n i : Nat) :
    (List.replicate n Slot.empty).getD i .empty = .empty := by
  rw [List.getD_eq_getElem?_getD, List.getElem?_replicate]
  split <;> rfl

theorem nodup_map_liveList {f : Nat → Nat} {l : List Slot}
    (h : ∀ i j c d r s, l.getD i .empty = .live c r → l.getD j .empty = .live d s → f r = f s →
      i = j) :
    ((liveList l).map f).Nodup := by
  induction l with
  | nil => exact List.nodup_nil
  | cons a l ih =>
    have ih' := ih fun i j c d r s hi hj hf => Nat.succ.inj (h (i + 1) (j + 1) c d r s hi hj hf)
    cases a with
    | empty => exact ih'
    | tomb => exact ih'
    | live c r =>
      refine List.nodup_cons.2 ⟨fun hm => ?_, ih'⟩
      obtain ⟨s, hs, hfs⟩ := List.mem_map.1 hm
      obtain ⟨j, d, hj⟩ := mem_liveList.1 hs
      exact Nat.noConfusion (h 0 (j + 1) c d r s rfl hj hfs.symm)

/-- The slot-level invariant (`C03.Inv` says the same on `[i]?` and adds size, load and count).  It
reads slots by `getD i .empty` as the model does: an index beyond the end is an empty slot, so no
bounds are carried.  `reach` is `PathFull slots (fold c slots.length) i` written out: a probe for a
stored key meets no empty slot before it. -/
structure SInv (keyOf codeOf : Nat → Nat) (slots : List Slot) : Prop where
  codes : ∀ i c r, slots.getD i .empty = .live c r → c = codeOf (keyOf r)
  distinct : ∀ i j c d r s, slots.getD i .empty = .live c r → slots.getD j .empty = .live d s →
    keyOf r = keyOf s → i = j
  reach : ∀ i c r, slots.getD i .empty = .live c r →
    ∀ e, e < (i + slots.length - fold c slots.length) % slots.length →
      slots.getD ((fold c slots.length + e) % slots.length) .empty ≠ .empty

/-- The slot updates the operations make: a tombstone, or a new record at the end of its probe
path. -/
theorem SInv.set {keyOf codeOf : Nat → Nat} {slots : List Slot} (h : SInv keyOf codeOf slots)
    {i : Nat} {x : Slot} (hx : x ≠ .empty)
    (hnew : ∀ c r, x = .live c r → c = codeOf (keyOf r) ∧
      (∀ r' ∈ liveList slots, keyOf r' ≠ keyOf r) ∧ PathFull slots (fold c slots.length) i) :
    SInv keyOf codeOf (slots.set i x) := by
  refine ⟨?_, ?_, ?_⟩
  · intro j c r hj
    rcases of_getD_set hj with hj | ⟨_, hj⟩
    · exact h.codes j c r hj
    · exact (hnew c r hj).1
  · intro j k c d r s hj hk hkey
    rcases of_getD_set hj with hj | ⟨e1, hj⟩ <;> rcases of_getD_set hk with hk | ⟨e2, hk⟩
    · exact h.distinct j k c d r s hj hk hkey
    · exact absurd hkey ((hnew d s hk).2.1 r (mem_liveList.2 ⟨j, c, hj⟩))
    · exact absurd hkey.symm ((hnew c r hj).2.1 s (mem_liveList.2 ⟨k, d, hk⟩))
    · rw [e1, e2]
  · intro j c r hj
    show PathFull (slots.set i x) (fold c (slots.set i x).length) j
    rw [List.length_set]
    apply PathFull.set hx
    rcases of_getD_set hj with hj | ⟨e1, hj⟩
    · exact h.reach j c r hj
    · exact e1 ▸ (hnew c r hj).2.2

theorem SInv.set_live {keyOf codeOf : Nat → Nat} {slots : List Slot} (h : SInv keyOf codeOf slots)
    {i c r : Nat} (hcode : c = codeOf (keyOf r))
    (hnew : ∀ r' ∈ liveList slots, keyOf r' ≠ keyOf r)
    (hpath : PathFull slots (fold c slots.length) i) :
    SInv keyOf codeOf (slots.set i (.live c r)) :=
  h.set (fun e => Slot.noConfusion e) fun _ _ e => by cases e; exact ⟨hcode, hnew, hpath⟩

theorem SInv.set_tomb {keyOf codeOf : Nat → Nat} {slots : List Slot} (h : SInv keyOf codeOf slots)
    (i : Nat) : SInv keyOf codeOf (slots.set i .tomb) :=
  h.set (fun e => Slot.noConfusion e) nofun

theorem SInv.nodup {keyOf codeOf : Nat → Nat} {slots : List Slot} (h : SInv keyOf codeOf slots) :
    (liveList slots).Nodup :=
  (nodup_map_liveList h.distinct).of_map keyOf fun _ _ hab e => hab (congrArg keyOf e)

theorem mem_liveList_set_tomb {keyOf codeOf : Nat → Nat} {slots : List Slot}
    (h : SInv keyOf codeOf slots)
    {i c r0 r : Nat} (hi : slots.getD i .empty = .live c r0) :
    r ∈ liveList (slots.set i .tomb) ↔ r ∈ liveList slots ∧ r ≠ r0 := by
  have hp := liveList_set_tomb_perm hi
  have hnd := (List.nodup_cons.1 (hp.nodup_iff.2 h.nodup)).1
  rw [← hp.mem_iff, List.mem_cons]
  exact ⟨fun hr => ⟨Or.inr hr, fun e => hnd (e ▸ hr)⟩, fun ⟨hr, hne⟩ => hr.resolve_left hne⟩

theorem SInv.replicate (keyOf codeOf : Nat → Nat) (n : Nat) :
    SInv keyOf codeOf (List.replicate n Slot.empty) := by
  have key : ∀ i c r, (List.replicate n Slot.empty).getD i .empty ≠ .live c r :=
    fun i c r h => by rw [getD_replicate_empty] at h; cases h
  exact ⟨fun i c r h => absurd h (key i c r), fun i j c d r s h => absurd h (key i c r),
    fun i c r h => absurd h (key i c r)⟩

theorem SInv.stop_eq {keyOf codeOf : Nat → Nat} {slots : List Slot} (h : SInv keyOf codeOf slots)
    {i code r key e res : Nat} {ft : Option Nat}
    (hst : StopsAt keyOf slots key code (fold code slots.length) e res ft)
    (hi : slots.getD i .empty = .live code r) (hk : keyOf r = key) : res = i := by
  have hil : i < slots.length := lt_of_getD_live hi
  have hs : fold code slots.length < slots.length := fold_lt (by omega)
  have hidx := idx_dist hs hil
  rw [← hidx]
  refine hst.res_eq (dist_lt hs) (fun d hd => ?_) (by rw [hidx, hi]; exact Or.inr ⟨r, rfl, hk⟩)
  rintro (hemp | ⟨r', hm, hk'⟩)
  · exact h.reach i code r hi d hd hemp
  · -- a second slot with the key would be the same slot
    have := h.distinct _ _ _ _ _ _ hm hi (by rw [hk', hk])
    have := idx_inj hs (Nat.lt_trans hd (dist_lt hs)) (dist_lt hs) (this.trans hidx.symm)
    omega

theorem recordAt_eq_some {t : Table} {i r : Nat} :
    recordAt t i = some r ↔ ∃ c, t.slots.getD i .empty = .live c r :=
  recOf_eq_some

theorem recordAt_ge (t : Table) (i : Nat) (hi : t.n ≤ i) : recordAt t i = none := by
  unfold recordAt
  rw [getD_of_length_le hi]

/-- The model's range check is covered by `recordAt`: slots beyond the end read as empty. -/
theorem find_eq (keyOf : Nat → Nat) (t : Table) (key code : Nat) :
    find keyOf t key code =
      match findEntry keyOf t.slots key code (fold code t.n) t.n (fold code t.n) [Ev.hash key] with
      | some (i, evs) => ((recordAt t i).map fun _ => i, evs)
      | none => (none, [Ev.hash key]) := by
  unfold find
  dsimp only
  generalize findEntry keyOf t.slots key code _ _ _ _ = o
  cases o with
  | none => rfl
  | some p =>
    obtain ⟨i, evs⟩ := p
    dsimp only
    by_cases hlt : i < t.n
    · rw [if_pos hlt]
      unfold recordAt
      cases t.slots.getD i .empty <;> rfl
    · rw [if_neg hlt, recordAt_ge t i (Nat.le_of_not_lt hlt)]
      rfl

theorem find_match (keyOf : Nat → Nat) (t : Table) (key code i : Nat)
    (h : (find keyOf t key code).1 = some i) : Match keyOf key code (t.slots.getD i .empty) := by
  rw [find_eq] at h
  rcases Nat.eq_zero_or_pos t.n with hn | hn
  · rw [hn] at h; cases h
  · obtain ⟨e, res, ft, evs', hst, hfe, _⟩ :=
      walk_spec keyOf t.slots key code _ (fold_lt hn) [Ev.hash key]
    rw [Table.n, hfe] at h
    obtain ⟨r, hr, rfl⟩ := Option.map_eq_some_iff.1 h
    obtain ⟨c, hl⟩ := recordAt_eq_some.1 hr
    rcases hst.res with ⟨_, _, hemp | hm⟩ | ⟨_, hre⟩
    · rw [hl] at hemp; cases hemp
    · exact hm
    · rw [hre, getD_of_length_le (Nat.le_refl _)] at hl; cases hl

theorem SInv.find_some {keyOf codeOf : Nat → Nat} {t : Table} (h : SInv keyOf codeOf t.slots)
    {i code r key : Nat} (hi : t.slots.getD i .empty = .live code r) (hk : keyOf r = key) :
    (find keyOf t key code).1 = some i := by
  have hn : 0 < t.slots.length := Nat.zero_lt_of_lt (lt_of_getD_live hi)
  obtain ⟨e, res, ft, evs', hst, hfe, _⟩ :=
    walk_spec keyOf t.slots key code _ (fold_lt hn) [Ev.hash key]
  rw [find_eq, Table.n, hfe, h.stop_eq hst hi hk]
  exact congrArg (Option.map _) (recordAt_eq_some.2 ⟨code, hi⟩)

/-- For an absent key below full load `planPos` is in range, holds no record and is reached without
an empty slot: the new record may be stored there (`SInv.set_live`). -/
theorem StopsAt.absent {keyOf : Nat → Nat} {slots : List Slot} {key code start e res : Nat}
    {ft : Option Nat}
    (h : StopsAt keyOf slots key code start e res ft) (hs : start < slots.length)
    (hnew : ∀ r ∈ liveList slots, keyOf r ≠ key)
    (hload : (liveList slots).length < slots.length) :
    planPos slots start res ft < slots.length ∧
      ¬ IsLive (slots.getD (planPos slots start res ft) .empty) ∧
      PathFull slots start (planPos slots start res ft) ∧
      (ft = none → planPos slots start res ft = res) := by
  have hft := h.firstTomb
  have hres : e < slots.length ∧ res = (start + e) % slots.length ∧ slots.getD res .empty = .empty ∨
      e = slots.length ∧ res = slots.length :=
    h.res.imp_left fun ⟨h1, h2, h3⟩ =>
      ⟨h1, h2, h3.resolve_right fun ⟨r, hr, hk⟩ => hnew r (mem_liveList.2 ⟨res, code, hr⟩) hk⟩
  -- the walk did not stop at a live slot, so the first tombstone (if any) is taken
  have hpos : planPos slots start res ft = ft.getD (if res < slots.length then res else start) := by
    rcases hres with ⟨_, _, hemp⟩ | ⟨_, hre⟩
    · exact planPos_empty hemp
    · rw [hre, planPos_end, if_neg (Nat.lt_irrefl _)]
  rw [hpos]
  cases ft with
  | some f =>
    obtain ⟨p, hpe, hf, htomb, hlive⟩ := hft
    have hpn : p < slots.length := by rcases hres with ⟨h, _⟩ | ⟨h, _⟩ <;> omega
    have hnl : ¬ IsLive (slots.getD f .empty) := by
      rw [htomb]
      rintro ⟨_, _, h⟩
      cases h
    rw [Option.getD_some]
    exact ⟨hf ▸ idx_lt hs, hnl, hf ▸ PathFull.of_live hs hpn hlive, nofun⟩
  | none =>
    rcases hres with ⟨hen, hre, hemp⟩ | ⟨hen, _⟩
    · have hr : res < slots.length := hre ▸ idx_lt hs
      have hnl : ¬ IsLive (slots.getD res .empty) := by
        rw [hemp]
        rintro ⟨_, _, h⟩
        cases h
      rw [Option.getD_none, if_pos hr]
      exact ⟨hr, hnl, hre ▸ PathFull.of_live hs hen hft, fun _ => rfl⟩
    · -- below full load some slot holds no record, and a whole cycle of live slots has passed it
      obtain ⟨x, hx, hnone⟩ := List.length_filterMap_lt_length_iff_exists.1 hload
      obtain ⟨j, hj, rfl⟩ := List.getElem_of_mem hx
      have := hft ((j + slots.length - start) % slots.length) (by rw [hen]; exact dist_lt hs)
      rw [idx_dist hs hj, List.getD_eq_getElem?_getD, List.getElem?_eq_getElem hj] at this
      exact absurd this (recOf_eq_none.1 hnone)

/-- One step of `rehashInto`: storing `r` where `findEntry` stops keeps `SInv` and the absence of
tombstones and adds exactly `r`.  Without a tombstone (`hnt`; the fresh table has none) `planPos` is
that position. -/
theorem SInv.findEntry_store {keyOf codeOf : Nat → Nat} {fresh : List Slot}
    (hinv : SInv keyOf codeOf fresh) (hnt : ∀ j, fresh.getD j .empty ≠ .tomb)
    (hload : (liveList fresh).length < fresh.length) {c r : Nat} (hcode : c = codeOf (keyOf r))
    (hnew : ∀ r' ∈ liveList fresh, keyOf r' ≠ keyOf r) (evs : List Ev) :
    ∃ res evs', findEntry keyOf fresh (keyOf r) c (fold c fresh.length) fresh.length
        (fold c fresh.length) evs = some (res, evs') ∧
      SInv keyOf codeOf (fresh.set res (.live c r)) ∧
      (∀ j, (fresh.set res (.live c r)).getD j .empty ≠ .tomb) ∧
      (liveList (fresh.set res (.live c r))).Perm (r :: liveList fresh) := by
  have hs : fold c fresh.length < fresh.length := fold_lt (Nat.zero_lt_of_lt hload)
  obtain ⟨e, res, ft, evs', hst, hfe, _⟩ := walk_spec keyOf fresh (keyOf r) c _ hs evs
  obtain ⟨hlt, hnl, hpath, hnone⟩ := hst.absent hs hnew hload
  -- no tombstone was passed, so the position is where `findEntry` stopped
  have hft : ft = none := by
    cases ft with
    | none => rfl
    | some f =>
      obtain ⟨_, _, _, htomb, _⟩ := hst.firstTomb
      exact absurd htomb (hnt f)
  rw [hnone hft] at hlt hnl hpath
  refine ⟨res, evs', hfe, hinv.set_live hcode hnew hpath, fun j hj => ?_,
    liveList_set_live_perm hlt hnl⟩
  rcases of_getD_set hj with h' | ⟨_, h'⟩
  · exact hnt j h'
  · cases h'

theorem rehashInto_spec (keyOf codeOf : Nat → Nat) (n : Nat) :
    ∀ old fresh evs, fresh.length = n → SInv keyOf codeOf fresh →
      (∀ j, fresh.getD j .empty ≠ .tomb) →
      (liveList fresh).length + (liveList old).length < n →
      (∀ c r, Slot.live c r ∈ old → c = codeOf (keyOf r)) →
      ((liveList fresh ++ liveList old).map keyOf).Nodup →
      (rehashInto keyOf old fresh evs).1.length = n ∧
      SInv keyOf codeOf (rehashInto keyOf old fresh evs).1 ∧
      (liveList (rehashInto keyOf old fresh evs).1).Perm (liveList fresh ++ liveList old) := by
  intro old
  induction old with
  | nil =>
    intro fresh evs hlen hinv _ _ _ _
    exact ⟨hlen, hinv, by rw [show liveList [] = [] from rfl, List.append_nil]; exact .refl _⟩
  | cons a rest ih =>
    intro fresh evs hlen hinv hnt hcount hcodes hnd
    have hcodes' : ∀ c r, Slot.live c r ∈ rest → c = codeOf (keyOf r) :=
      fun c r h => hcodes c r (List.mem_cons_of_mem _ h)
    -- on a slot without a record `rehashInto` and `liveList` go on to the rest by computation
    cases a with
    | empty => exact ih fresh evs hlen hinv hnt hcount hcodes' hnd
    | tomb => exact ih fresh evs hlen hinv hnt hcount hcodes' hnd
    | live c r =>
      have hcount : (liveList fresh).length + ((liveList rest).length + 1) < n := hcount
      have hnew : ∀ r' ∈ liveList fresh, keyOf r' ≠ keyOf r := fun r' hr' => by
        rw [List.map_append] at hnd
        exact (List.nodup_append.1 hnd).2.2 _ (List.mem_map_of_mem hr') _
          (List.mem_map_of_mem List.mem_cons_self)
      obtain ⟨res, evs', hfe, hinv', hnt', hp⟩ := hinv.findEntry_store hnt (by omega)
        (hcodes c r List.mem_cons_self) hnew (evs ++ [Ev.key r])
      have heq : rehashInto keyOf (Slot.live c r :: rest) fresh evs
          = rehashInto keyOf rest (fresh.set res (.live c r)) evs' := by
        simp only [rehashInto, hfe]
      rw [heq]
      have hmove : (liveList (fresh.set res (.live c r)) ++ liveList rest).Perm
          (liveList fresh ++ r :: liveList rest) := (hp.append_right _).trans List.perm_middle.symm
      have hcount' :
          (liveList (fresh.set res (.live c r))).length + (liveList rest).length < n := by
        rw [hp.length_eq, List.length_cons]
        omega
      obtain ⟨h1, h2, h3⟩ := ih (fresh.set res (.live c r)) evs'
        ((List.length_set ..).trans hlen) hinv' hnt' hcount' hcodes'
        ((hmove.map keyOf).nodup_iff.2 hnd)
      exact ⟨h1, h2, h3.trans hmove⟩

theorem rehash_spec (keyOf codeOf : Nat → Nat) (slots : List Slot) (n : Nat) (evs : List Ev)
    (h : SInv keyOf codeOf slots) (hcount : (liveList slots).length < n) :
    (rehashInto keyOf slots (List.replicate n .empty) evs).1.length = n ∧
    SInv keyOf codeOf (rehashInto keyOf slots (List.replicate n .empty) evs).1 ∧
    (liveList (rehashInto keyOf slots (List.replicate n .empty) evs).1).Perm (liveList slots) := by
  have hnt : ∀ j, (List.replicate n Slot.empty).getD j .empty ≠ .tomb := fun j => by
    rw [getD_replicate_empty]
    exact Slot.noConfusion
  have hcodes : ∀ c r, Slot.live c r ∈ slots → c = codeOf (keyOf r) := fun c r hm => by
    obtain ⟨i, hi⟩ := mem_iff_getD.1 hm
    exact h.codes i c r hi
  have := rehashInto_spec keyOf codeOf n slots (List.replicate n .empty) evs
    List.length_replicate (SInv.replicate _ _ _) hnt
  rw [liveList_replicate_empty] at this
  exact this ((Nat.zero_add _).symm ▸ hcount) hcodes (nodup_map_liveList h.distinct)

theorem insert_eq (keyOf : Nat → Nat) (t : Table) (rec code : Nat) (ok : Bool) :
    insert keyOf t rec code ok =
      match planInsert keyOf t.slots (keyOf rec) code (fold code t.slots.length) t.slots.length
        (fold code t.slots.length) none [Ev.key rec, Ev.hash (keyOf rec)] with
      | some (i, evs) => insertAt keyOf t i code rec ok evs
      | none => (t, .noMem, [Ev.key rec, Ev.hash (keyOf rec)]) := rfl

theorem insertAt_live {keyOf : Nat → Nat} {t : Table} {index c r : Nat} (code rec : Nat) (ok : Bool)
    (evs : List Ev) (h : t.slots.getD index .empty = .live c r) :
    insertAt keyOf t index code rec ok evs = (t, .exists_, evs) := by
  unfold insertAt; rw [h]

theorem erase_eq (keyOf : Nat → Nat) (t : Table) (i : Nat) (ok : Bool) :
    erase keyOf t i ok =
      if t.count - 1 < t.n / hashShrinkDiv ∧ t.n > hashMinEntries then
        if ok then
          ({ slots :=
               (rehashInto keyOf (t.slots.set i .tomb) (List.replicate (t.n / 2) .empty) []).1,
             count := t.count - 1 }, .success, recordAt t i,
            (rehashInto keyOf (t.slots.set i .tomb) (List.replicate (t.n / 2) .empty) []).2)
        else ({ slots := t.slots.set i .tomb, count := t.count - 1 }, .noMem, recordAt t i, [])
      else ({ slots := t.slots.set i .tomb, count := t.count - 1 }, .success, recordAt t i, []) :=
  rfl

theorem remove_eq (keyOf : Nat → Nat) (t : Table) (key code : Nat) (ok : Bool) :
    remove keyOf t key code ok =
      match (find keyOf t key code).1 with
      | some i => ((erase keyOf t i ok).1, (erase keyOf t i ok).2.1, (erase keyOf t i ok).2.2.1,
          (find keyOf t key code).2 ++ (erase keyOf t i ok).2.2.2)
      | none => (t, .notFound, none, (find keyOf t key code).2) := by
  unfold remove
  generalize find keyOf t key code = p
  obtain ⟨o, evs⟩ := p
  cases o <;> rfl

section Callbacks
/-! `P` holds of every callback event logged if it holds of the callbacks on the records in sight:
for a walk the stored records against the probe key; for the operations the records satisfying `Q`
(the stored ones and the new one). -/

theorem visit_all {keyOf : Nat → Nat} {slots : List Slot} {key code i : Nat} {evs : List Ev}
    {P : Ev → Prop}
    (hP : ∀ r ∈ liveList slots, P (.key r) ∧ P (.eq (keyOf r) key)) (h : ∀ x ∈ evs, P x) :
    ∀ x ∈ visit keyOf key code evs (slots.getD i .empty), P x := by
  generalize hsl : slots.getD i .empty = s
  fun_cases visit keyOf key code evs s with
  | case1 r =>
    exact List.forall_mem_append.2 ⟨h, List.forall_mem_cons.2
      ⟨(hP r (mem_liveList.2 ⟨i, code, hsl⟩)).1,
      List.forall_mem_singleton.2 (hP r (mem_liveList.2 ⟨i, code, hsl⟩)).2⟩⟩
  | case2 => exact h
  | case3 => exact h

theorem walk_events (keyOf : Nat → Nat) (slots : List Slot) (key code start : Nat) (P : Ev → Prop)
    (hP : ∀ r ∈ liveList slots, P (.key r) ∧ P (.eq (keyOf r) key)) :
    ∀ fuel i ft evs, (∀ x ∈ evs, P x) →
      (∀ p, findEntry keyOf slots key code start fuel i evs = some p → ∀ x ∈ p.2, P x) ∧
      (∀ p, planInsert keyOf slots key code start fuel i ft evs = some p → ∀ x ∈ p.2, P x) := by
  intro fuel
  induction fuel with
  | zero => intro i ft evs _; exact ⟨nofun, nofun⟩
  | succ fuel ih =>
    intro i ft evs hevs
    have hvis := visit_all (code := code) (i := i) hP hevs
    by_cases hst : Stop keyOf key code (slots.getD i .empty)
    · rw [findEntry_stop rfl hst, planInsert_stop rfl hst]
      exact ⟨fun p h => Option.some.inj h ▸ hvis, fun p h => Option.some.inj h ▸ hvis⟩
    · rw [findEntry_pass rfl hst, planInsert_pass rfl hst]
      split
      · exact ⟨fun p h => Option.some.inj h ▸ hvis, fun p h => Option.some.inj h ▸ hvis⟩
      · exact ih _ _ _ hvis

theorem find_events (keyOf : Nat → Nat) (t : Table) (key code : Nat) (P : Ev → Prop)
    (hhash : P (.hash key))
    (hP : ∀ r ∈ liveList t.slots, P (.key r) ∧ P (.eq (keyOf r) key)) :
    ∀ e ∈ (find keyOf t key code).2, P e := by
  have h0 : ∀ e ∈ [Ev.hash key], P e := List.forall_mem_singleton.2 hhash
  rw [find_eq]
  split
  · rename_i hfe; exact (walk_events keyOf t.slots key code _ P hP _ _ none _ h0).1 _ hfe
  · exact h0

variable {keyOf : Nat → Nat} {P : Ev → Prop} {Q : Nat → Prop}
  (hk : ∀ r, Q r → P (.key r)) (he : ∀ r s, Q r → Q s → P (.eq (keyOf r) (keyOf s)))
include hk he

theorem rehashInto_events : ∀ old fresh evs, (∀ r ∈ liveList fresh, Q r) →
    (∀ r ∈ liveList old, Q r) → (∀ e ∈ evs, P e) →
    ∀ e ∈ (rehashInto keyOf old fresh evs).2, P e := by
  intro old fresh evs hf ho hevs
  fun_induction rehashInto keyOf old fresh evs with
  | case1 => exact hevs
  | case2 c r rest fresh evs evs1 i evs2 hfe ih =>
    have hq : Q r := ho r List.mem_cons_self
    refine ih (fun r' h => ?_) (fun r' h => ho r' (List.mem_cons_of_mem _ h))
      ((walk_events keyOf fresh (keyOf r) c _ P
        (fun r' h => ⟨hk r' (hf r' h), he r' r (hf r' h) hq⟩) _ _ none _
        (List.forall_mem_append.2 ⟨hevs, List.forall_mem_singleton.2 (hk r hq)⟩)).1 _ hfe)
    rcases of_mem_liveList_set h with rfl | h
    · exact hq
    · exact hf r' h
  | case3 c r rest fresh evs evs1 hfe ih =>
    exact ih hf (fun r' h => ho r' (List.mem_cons_of_mem _ h))
      (List.forall_mem_append.2
        ⟨hevs, List.forall_mem_singleton.2 (hk r (ho r List.mem_cons_self))⟩)
  | case4 a rest fresh evs hna ih =>
    exact ih hf (fun r' h => ho r' (by rw [liveList_cons]; exact List.mem_append_right _ h)) hevs

theorem insertAt_events (t : Table) (index code rec : Nat) (ok : Bool) (evs : List Ev)
    (hQ : ∀ r ∈ liveList t.slots, Q r) (hrec : Q rec) (hevs : ∀ e ∈ evs, P e) :
    ∀ e ∈ (insertAt keyOf t index code rec ok evs).2.2, P e := by
  fun_cases insertAt keyOf t index code rec ok evs with
  | case2 t1 maxLoad newCount hg hok t2 evs2 hre =>
    cases hre
    -- grown: the records rehashed are the stored ones and the new one
    refine rehashInto_events hk he _ _ _
      (fun r h => by rw [liveList_replicate_empty] at h; cases h) (fun r h => ?_) hevs
    rcases of_mem_liveList_set h with rfl | h
    · exact hrec
    · exact hQ r h
  | case1 | case3 | case4 => exact hevs

theorem insert_events (t : Table) (rec code : Nat) (ok : Bool) (hhash : P (.hash (keyOf rec)))
    (hQ : ∀ r ∈ liveList t.slots, Q r) (hrec : Q rec) :
    ∀ e ∈ (insert keyOf t rec code ok).2.2, P e := by
  have h0 : ∀ e ∈ [Ev.key rec, Ev.hash (keyOf rec)], P e :=
    List.forall_mem_cons.2 ⟨hk rec hrec, List.forall_mem_singleton.2 hhash⟩
  fun_cases insert keyOf t rec code ok with
  | case1 key evs0 i evs hpl =>
    exact insertAt_events hk he t i code rec ok evs hQ hrec ((walk_events keyOf t.slots (keyOf rec)
      code _ P (fun r h => ⟨hk r (hQ r h), he r rec (hQ r h) hrec⟩) _ _ _ _ h0).2 _ hpl)
  | case2 => exact h0

end Callbacks

end Zix.Hash

/-! `C03.Inv` (`Spec/Hash.lean`) speaks of a `Table` through `t.slots[i]?` (`liveRecs`, `HoldsAt`,
`PathNonEmpty`), `SInv` above of a slot list through `getD`.  A property proof goes over by
`Inv.sinv` and comes back by `Inv.of_sinv`. -/
namespace Zix.C03
open Zix.Hash Zix.Generated

theorem liveRecs_eq (t : Table) : liveRecs t = liveList t.slots := iterate_eq t

theorem holdsAt_iff {t : Table} {i c r : Nat} :
    HoldsAt t i c r ↔ t.slots.getD i .empty = .live c r :=
  getD_live_iff

theorem mem_liveRecs {t : Table} {r : Nat} : r ∈ liveRecs t ↔ ∃ i c, HoldsAt t i c r := by
  rw [liveRecs_eq, mem_liveList]
  exact exists_congr fun _ => exists_congr fun _ => holdsAt_iff.symm

theorem recordAt_some_iff {t : Table} {i r : Nat} : recordAt t i = some r ↔ ∃ c, HoldsAt t i c r :=
  recordAt_eq_some.trans (exists_congr fun _ => holdsAt_iff.symm)

theorem pathNonEmpty_iff {t : Table} {start i : Nat} (hs : start < t.n) :
    PathNonEmpty t start i ↔ PathFull t.slots start i := by
  refine forall_congr' fun d => forall_congr' fun _ => ?_
  show _ ↔ t.slots.getD ((start + d) % t.n) .empty ≠ .empty
  rw [List.getD_eq_getElem?_getD, List.getElem?_eq_getElem (i := (start + d) % t.n) (idx_lt hs)]
  exact not_congr Option.some_inj

theorem Inv.home_lt {keyOf codeOf : Nat → Nat} {t : Table} (h : Inv keyOf codeOf t) (c : Nat) :
    fold c t.slots.length < t.slots.length :=
  fold_lt (Nat.lt_of_lt_of_le (by decide) h.size4)

theorem Inv.holdsAt_of_mem {keyOf codeOf : Nat → Nat} {t : Table} (h : Inv keyOf codeOf t) {r : Nat}
    (hr : r ∈ liveRecs t) : ∃ i, HoldsAt t i (codeOf (keyOf r)) r :=
  have ⟨i, c, hi⟩ := mem_liveRecs.1 hr
  ⟨i, h.codes i c r hi ▸ hi⟩

theorem Inv.sinv {keyOf codeOf : Nat → Nat} {t : Table} (h : Inv keyOf codeOf t) :
    SInv keyOf codeOf t.slots := by
  refine ⟨fun i c r hi => h.codes i c r (holdsAt_iff.2 hi),
    fun i j c d r s hi hj => h.distinct i j c d r s (holdsAt_iff.2 hi) (holdsAt_iff.2 hj), ?_⟩
  intro i c r hi
  exact (pathNonEmpty_iff (h.home_lt c)).1 (h.reachable i c r (holdsAt_iff.2 hi))

theorem iterate_nodup {keyOf codeOf : Nat → Nat} {t : Table} (h : Inv keyOf codeOf t) :
    (iterate t).Nodup :=
  h.sinv.nodup

theorem Inv.of_sinv {keyOf codeOf : Nat → Nat} {s : List Slot} {c : Nat} (h4 : 4 ≤ s.length)
    (hp : ∃ k, s.length = 2 ^ k) (hc : c = (liveList s).length) (hl : c < s.length)
    (h : SInv keyOf codeOf s) : Inv keyOf codeOf ⟨s, c⟩ := by
  refine ⟨h4, hp, hc, hl,
    fun i c r hi => h.codes i c r (holdsAt_iff.1 hi),
    fun i j c d r s hi hj => h.distinct i j c d r s (holdsAt_iff.1 hi) (holdsAt_iff.1 hj), ?_⟩
  intro i c r hi
  exact (pathNonEmpty_iff (fold_lt (Nat.lt_of_lt_of_le (by decide) h4))).2
    (h.reach i c r (holdsAt_iff.1 hi))

theorem Inv.of_set {keyOf codeOf : Nat → Nat} {t : Table} (h : Inv keyOf codeOf t) {i c : Nat}
    {x : Slot}
    (hs : SInv keyOf codeOf (t.slots.set i x)) (hc : c = (liveList (t.slots.set i x)).length)
    (hl : c < t.slots.length) : Inv keyOf codeOf ⟨t.slots.set i x, c⟩ := by
  have hlen : (t.slots.set i x).length = t.slots.length := List.length_set ..
  exact Inv.of_sinv (hlen ▸ h.size4) (hlen ▸ h.pow2) hc (hlen ▸ hl) hs

theorem Inv.of_rehash {keyOf codeOf : Nat → Nat} {s : List Slot} {c : Nat}
    (hs : SInv keyOf codeOf s)
    (hc : c = (liveList s).length) {n : Nat} (h4 : 4 ≤ n) (hp : ∃ k, n = 2 ^ k) (hl : c < n)
    (evs : List Ev) :
    Inv keyOf codeOf ⟨(rehashInto keyOf s (List.replicate n .empty) evs).1, c⟩ ∧
    ∀ r, r ∈ liveRecs ⟨(rehashInto keyOf s (List.replicate n .empty) evs).1, c⟩ ↔
      r ∈ liveList s := by
  obtain ⟨r1, r2, r3⟩ := rehash_spec keyOf codeOf s n evs hs (hc ▸ hl)
  exact ⟨Inv.of_sinv (r1.symm ▸ h4) (r1.symm ▸ hp) (hc.trans r3.length_eq.symm) (r1.symm ▸ hl) r2,
    fun _ => r3.mem_iff⟩

theorem pow2_half {n : Nat} (hp : ∃ k, n = 2 ^ k) (h : 4 < n) :
    4 ≤ n / 2 ∧ ∃ k, n / 2 = 2 ^ k := by
  obtain ⟨k, rfl⟩ := hp
  have hk : 2 < k := (Nat.pow_lt_pow_iff_right (by decide : 1 < 2)).1 h
  obtain ⟨j, rfl⟩ : ∃ j, k = j + 1 := ⟨k - 1, by omega⟩
  rw [Nat.pow_succ, Nat.mul_div_cancel _ (by decide : 0 < 2)]
  exact ⟨Nat.pow_le_pow_right (n := 2) (by decide) (by omega : 2 ≤ j), j, rfl⟩

theorem grow_fits {c n : Nat} (h4 : 4 ≤ n) (hl : c < n) : 4 ≤ n * 2 ∧ c + 1 < n * 2 := by omega

theorem shrink_fits {c n : Nat} (h : c < n / hashShrinkDiv) : c < n / 2 := by
  rw [show hashShrinkDiv = 4 from rfl] at h
  omega

theorem load_fits {n : Nat} (h4 : 4 ≤ n) : n / hashLoadDiv1 + n / hashLoadDiv2 < n := by
  rw [show hashLoadDiv1 = 2 from rfl, show hashLoadDiv2 = 8 from rfl]
  omega

/-- `zix_hash_insert_at` with a record whose key is new, at ANY position that holds no record and
has no empty slot between the record's home slot and itself (what `planInsert` returns, but not
only that).  About a named result `res`, so that the proof takes `insertAt` apart in one place. -/
theorem insertAt_new (keyOf codeOf : Nat → Nat) (t : Table) (h : Inv keyOf codeOf t)
    (rec i : Nat) (ok : Bool)
    (evs : List Ev) (hnew : ∀ r ∈ liveRecs t, keyOf r ≠ keyOf rec) (hi : i < t.slots.length)
    (hnl : ¬ IsLive (t.slots.getD i .empty))
    (hpath : PathFull t.slots (fold (codeOf (keyOf rec)) t.slots.length) i)
    (res : Table × Status × List Ev)
    (hres : res = insertAt keyOf t i (codeOf (keyOf rec)) rec ok evs) :
    (res.2.1 = .success ∧ Inv keyOf codeOf res.1 ∧
      (∀ r, r ∈ liveRecs res.1 ↔ r ∈ liveRecs t ∨ r = rec) ∧ res.1.count = t.count + 1) ∨
    (ok = false ∧ res.2.1 = .noMem ∧ res.1 = t) := by
  have h4 : 4 ≤ t.slots.length := h.size4
  have hl : t.count < t.slots.length := h.load
  have hcnt : t.count = (liveList t.slots).length := h.countEq
  have hs1 : SInv keyOf codeOf (t.slots.set i (.live (codeOf (keyOf rec)) rec)) :=
    h.sinv.set_live rfl hnew hpath
  have hp1 := liveList_set_live_perm (c := codeOf (keyOf rec)) (r := rec) hi hnl
  have hc1 : t.count + 1 = (liveList (t.slots.set i (.live (codeOf (keyOf rec)) rec))).length := by
    rw [hp1.length_eq, hcnt]; rfl
  have hm1 : ∀ r, r ∈ liveList (t.slots.set i (.live (codeOf (keyOf rec)) rec)) ↔
      r ∈ liveRecs t ∨ r = rec :=
    fun _ => hp1.mem_iff.trans (List.mem_cons.trans Or.comm)
  subst hres
  fun_cases insertAt keyOf t i (codeOf (keyOf rec)) rec ok evs with
  | case1 c r hsl => exact absurd ⟨c, r, hsl⟩ hnl
  | case2 t1 maxLoad newCount hg hok t2 evs2 hre =>
    obtain ⟨k, hk⟩ := h.pow2
    obtain ⟨g4, gl⟩ := grow_fits h4 hl
    obtain ⟨q1, q2⟩ := Inv.of_rehash hs1 hc1 g4 ⟨k + 1, by rw [Nat.pow_succ, ← hk]; rfl⟩ gl evs
    cases hre
    exact Or.inl ⟨rfl, q1, fun r => (q2 r).trans (hm1 r), rfl⟩
  | case3 maxLoad newCount hg hok =>
    exact Or.inr ⟨eq_false_of_ne_true hok, rfl, rfl⟩
  | case4 t1 maxLoad newCount hg =>
    -- below the load threshold, which leaves a free slot
    have hroom : t.count + 1 < t.slots.length :=
      Nat.lt_trans (Nat.lt_of_not_ge hg) (load_fits h4)
    exact Or.inl ⟨rfl, h.of_set hs1 hc1 hroom, hm1, rfl⟩

/-- `zix_hash_erase` at ANY slot `i` that holds a record (not necessarily one that `find` just
returned), whether or not the table could be shrunk; `res` as in `insertAt_new`. -/
theorem erase_live (keyOf codeOf : Nat → Nat) (t : Table) (h : Inv keyOf codeOf t)
    (i c r0 : Nat) (ok : Bool) (hi : HoldsAt t i c r0)
    (res : Table × Status × Option Nat × List Ev) (hres : res = erase keyOf t i ok) :
    res.2.2.1 = some r0 ∧ Inv keyOf codeOf res.1 ∧
    (∀ r, r ∈ liveRecs res.1 ↔ r ∈ liveRecs t ∧ r ≠ r0) ∧ res.1.count + 1 = t.count ∧
    (res.2.1 = .success ∨ (ok = false ∧ res.2.1 = .noMem)) := by
  have hi' := holdsAt_iff.1 hi
  have hrec : recordAt t i = some r0 := recordAt_eq_some.2 ⟨c, hi'⟩
  have hl : t.count < t.slots.length := h.load
  have hs1 := h.sinv.set_tomb i
  have hcnt : t.count = (liveList (t.slots.set i .tomb)).length + 1 :=
    h.countEq.trans (liveList_set_tomb_perm hi').length_eq.symm
  have hc1 : t.count - 1 = (liveList (t.slots.set i .tomb)).length := by rw [hcnt]; rfl
  have hpos : t.count - 1 + 1 = t.count := by rw [hcnt]; rfl
  have hm1 : ∀ r, r ∈ liveList (t.slots.set i .tomb) ↔ r ∈ liveRecs t ∧ r ≠ r0 :=
    fun _ => mem_liveList_set_tomb h.sinv hi'
  have keep : Inv keyOf codeOf ⟨t.slots.set i .tomb, t.count - 1⟩ :=
    h.of_set hs1 hc1 (Nat.lt_of_le_of_lt (Nat.sub_le _ _) hl)
  subst hres
  fun_cases erase keyOf t i ok with
  | case1 removed t1 hg hok t2 evs hre =>
    obtain ⟨p1, p2⟩ := pow2_half h.pow2 hg.2
    obtain ⟨q1, q2⟩ := Inv.of_rehash hs1 hc1 p1 p2 (shrink_fits hg.1) []
    cases hre
    exact ⟨hrec, q1, fun r => (q2 r).trans (hm1 r), hpos, Or.inl rfl⟩
  | case2 removed t1 hg hok =>
    -- shrinking refused: the tombstone stays
    exact ⟨hrec, keep, hm1, hpos, Or.inr ⟨eq_false_of_ne_true hok, rfl⟩⟩
  | case3 =>
    exact ⟨hrec, keep, hm1, hpos, Or.inl rfl⟩

end Zix.C03

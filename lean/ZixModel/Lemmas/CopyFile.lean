import ZixModel.Spec.CopyFile
import ZixModel.Lemmas.Errno
/-! `copyFile` is cut into stages, each with an equation in which the fault looked up is explicit.
Each loop, `finishCopy` and each of its single calls has one theorem saying what is known when it
has ended, as a structure (`CfrEnd`, `WriteEnd`, `CopyEnd`, `FinishEnd`, `Issued`); they share
`Calls` (what a piece leaves alone) and `Cause` (why a status is not SUCCESS).  The stages share one
statement, `Ends`: every run ends in one `finishCopy`.  It is proved stage by stage from the last;
`copyFile_end` goes through the first three stages itself. -/
namespace Zix.CopyFile
open Zix.Errno Zix.Generated

def issueSt (fault : Call → Nat → Option Fault) (s : St) (c : Call) : St := (issue fault s c).1

theorem issue_eq (fault : Call → Nat → Option Fault) (s : St) (c : Call) :
    issue fault s c = (issueSt fault s c, fault c (s.count c)) := rfl

section
variable (fault : Call → Nat → Option Fault) (s : St) (c : Call)

@[simp] theorem issueSt_src : (issueSt fault s c).src = s.src := rfl

@[simp] theorem issueSt_dst : (issueSt fault s c).dst = s.dst := rfl

@[simp] theorem issueSt_errno : (issueSt fault s c).errno = s.errno := rfl

@[simp] theorem issueSt_opened : (issueSt fault s c).opened = s.opened := rfl

@[simp] theorem issueSt_closed : (issueSt fault s c).closed = s.closed := rfl

@[simp] theorem issueSt_srcTouched : (issueSt fault s c).srcTouched = s.srcTouched := rfl

end

theorem lookup_filter_ne (l : List (Call × Nat)) (c c' : Call) (h : c' ≠ c) :
    (l.filter (·.1 ≠ c)).lookup c' = l.lookup c' := by
  fun_induction List.filter (·.1 ≠ c) l with
  | case1 => rfl
  | case2 p ps hp ih => rw [List.lookup_cons, List.lookup_cons, ih]
  | case3 p ps hp ih =>  -- `p` is filtered out: its key is `c`, not `c'`
    have hpc : p.1 = c := by simpa using hp
    rw [ih, List.lookup_cons, beq_false_of_ne (hpc ▸ h)]

theorem issueSt_count (fault : Call → Nat → Option Fault) (s : St) (c c' : Call) :
    (issueSt fault s c).count c' = if c' = c then s.count c + 1 else s.count c' := by
  show (List.lookup c' ((c, s.count c + 1) :: s.counts.filter (·.1 ≠ c))).getD 0 = _
  by_cases h : c' = c
  · subst h; simp [List.lookup]
  · have h1 : (c' == c) = false := by simpa using h
    simp only [List.lookup, h1, if_neg h]
    rw [lookup_filter_ne _ _ _ h]; rfl

section
variable (fault : Call → Nat → Option Fault)

/-- One `close` of `closeFds`. -/
def closeOne (c : Call) (s : St) (hv : Bool) : St × Bool :=
  if hv then
    match issue fault s c with
    | (s, some (.err e)) => ({ s with errno := e, closed := s.closed + 1 }, true)
    | (s, _) => ({ s with closed := s.closed + 1 }, false)
  else (s, false)

/-- The part of `finishCopy` before `closeFds`. -/
def syncOne (s : St) (hv : Bool) : St × Int :=
  if hv then
    match issue fault s .fdatasync with
    | (s, some (.err e)) => ({ s with errno := e }, errnoStatus e)
    | (s, _) => (s, 0)
  else (s, 0)

/-- The body of `copyBlocks` after a successful read of `k` bytes. -/
def cbStep (bufSize fuel : Nat) (s : St) (off k : Nat) : St × Int :=
  if k = 0 then (s, 0)
  else
    match writeAll fault (k + 1) s ((s.src.drop off).take k) with
    | (s, some st) => (s, st)
    | (s, none) => copyBlocks fault bufSize fuel s (off + k)

end

section
variable (w : World) (ow : Bool) (fault : Call → Nat → Option Fault)

/-- `finishCopy` as a `Result`.  (`Result.st` is the state; `st : Int` is a status, as in the
model's local names.) -/
def finishR (s : St) (dOpen sOpen : Bool) (status : Int) : Result :=
  ⟨(finishCopy fault s dOpen sOpen status).2, (finishCopy fault s dOpen sOpen status).1⟩

/-- Releasing the buffer (`zix_aligned_free`) and the `errno = 0` that follows: the release cannot
fail, whatever it leaves in errno is discarded. -/
def freeOne (s : St) : St :=
  let s := match issue fault s .free with
    | (s, some (.err e)) => { s with errno := e }
    | (s, _) => s
  { s with errno := 0 }

/-- The user-space copy: when the kernel copy reported NOT_SUPPORTED or the source reports no
size. -/
def stageFallback (s : St) : Result :=
  let done := (s.dst.getD []).length
  let (s, f) := issue fault s .alloc
  let bufSize := match f with | some _ => 512 | none => w.blk
  let s := { s with errno := 0 }
  let (s, st) := copyBlocks fault bufSize (s.src.length + 2) s done
  let s := freeOne fault s
  let (s, st) := finishCopy fault s true true st
  ⟨st, s⟩

/-- The kernel copy (only for a source that reports a size) and what follows. -/
def stageCopy (s : St) : Result :=
  let reported := if w.sizeKnown then s.src.length else 0
  if reported = 0 then stageFallback w fault s
  else
    let s := { s with errno := 0 }
    match cfrLoop fault (s.src.length + 1) s reported with
    | (s, some st) =>
      let (s, st) := finishCopy fault s true true st
      ⟨st, s⟩
    | (s, none) => stageFallback w fault s

/-- After both files are open and examined: same-file check, truncation. -/
def stageTrunc (s : St) : Result :=
  if w.dst == .sameAsSrc then
    let (s, st) := finishCopy fault s true true stBadArg
    ⟨st, s⟩
  else
    let (s, truncErr) : St × Option Int :=
      if ow then
        match issue fault s .ftruncate with
        | (s, some (.err e)) => ({ s with errno := e }, some e)
        | (s, _) => ({ s with dst := some [] }, none)
      else (s, none)
    match truncErr with
    | some e =>
      let (s, st) := finishCopy fault s true true (errnoStatus e)
      ⟨st, s⟩
    | none => stageCopy w fault s

def stageFstatDst (s : St) : Result :=
  match issue fault s .fstatDst with
  | (s, some (.err e)) =>
    let (s, st) := finishCopy fault { s with errno := e } true true (errnoStatus e)
    ⟨st, s⟩
  | (s, _) => stageTrunc w ow fault s

def stageDst (s : St) : Result :=
  let (s, f) := issue fault s .openDst
  let dstErr : Option Int := match f with
    | some (.err e) => some e
    | _ => match w.dst with
      | .directory => some (if ow then EISDIR else EEXIST)
      | .absent => none
      | _ => if ow then none else some EEXIST
  match dstErr with
  | some e =>
    let (s, st) := finishCopy fault { s with errno := e } false true (errnoStatus e)
    ⟨st, s⟩
  | none =>
    let s := { s with opened := s.opened + 1, dst := (match s.dst with | none => some [] | d => d) }
    stageFstatDst w ow fault s

def stageSrc (s : St) : Result :=
  match issue fault s .fstatSrc with
  | (s, some (.err e)) =>
    let (s, st) := finishCopy fault { s with errno := e } false true (errnoStatus e)
    ⟨st, s⟩
  | (s, _) =>
    if w.srcKind ≠ .regular then
      let (s, st) := finishCopy fault s false true stBadArg
      ⟨st, s⟩
    else stageDst w ow fault s

def initSt : St :=
  { src := w.src, srcTouched := false,
    dst := (match w.dst with | .absent => none | .file c => some c | .sameAsSrc => some w.src | .directory => none),
    errno := 0, counts := [], trace := [], opened := 0, closed := 0 }

theorem copyFile_eq : copyFile w ow fault =
    (let (s, f) := issue fault (initSt w) .openSrc
     let openErr : Option Int := match f with
       | some (.err e) => some e
       | _ => if w.srcKind = .missing then some ENOENT else none
     match openErr with
     | some e =>
       let (s, st) := finishCopy fault { s with errno := e } false false (errnoStatus e)
       ⟨st, s⟩
     | none => stageSrc w ow fault { s with opened := s.opened + 1 }) := by
  -- unfolded by name first: `rfl` alone finds this unfolding only slowly
  delta stageSrc stageDst stageFstatDst stageTrunc stageCopy stageFallback freeOne
  rfl

/-- What `open(src)` reports. -/
def openErrOf (f : Option Fault) : Option Int :=
  match f with
  | some (.err e) => some e
  | _ => if w.srcKind = .missing then some ENOENT else none

/-- What `open(dst, O_CREAT [| O_EXCL])` reports. -/
def dstErrOf (f : Option Fault) : Option Int :=
  match f with
  | some (.err e) => some e
  | _ => match w.dst with
    | .directory => some (if ow then EISDIR else EEXIST)
    | .absent => none
    | _ => if ow then none else some EEXIST

theorem copyFile_eq' : copyFile w ow fault =
    match openErrOf w (fault .openSrc 0) with
    | some e =>
      finishR fault { issueSt fault (initSt w) .openSrc with errno := e } false false
        (errnoStatus e)
    | none => stageSrc w ow fault { issueSt fault (initSt w) .openSrc with opened := 1 } :=
  (copyFile_eq w ow fault).trans rfl

theorem stageSrc_eq (s : St) : stageSrc w ow fault s =
    match fault .fstatSrc (s.count .fstatSrc) with
    | some (.err e) =>
      finishR fault { issueSt fault s .fstatSrc with errno := e } false true (errnoStatus e)
    | _ =>
      if w.srcKind ≠ .regular then finishR fault (issueSt fault s .fstatSrc) false true stBadArg
      else stageDst w ow fault (issueSt fault s .fstatSrc) := by
  unfold stageSrc; simp only [issue_eq]
  rcases fault .fstatSrc (s.count .fstatSrc) with _ | ⟨e⟩ | ⟨n⟩ <;> rfl

def dstOpened (s : St) : St :=
  { issueSt fault s .openDst with
    opened := s.opened + 1, dst := (match s.dst with | none => some [] | d => d) }

theorem stageDst_eq (s : St) : stageDst w ow fault s =
    match dstErrOf w ow (fault .openDst (s.count .openDst)) with
    | some e =>
      finishR fault { issueSt fault s .openDst with errno := e } false true (errnoStatus e)
    | none => stageFstatDst w ow fault (dstOpened fault s) := rfl

theorem stageFstatDst_eq (s : St) : stageFstatDst w ow fault s =
    match fault .fstatDst (s.count .fstatDst) with
    | some (.err e) =>
      finishR fault { issueSt fault s .fstatDst with errno := e } true true (errnoStatus e)
    | _ => stageTrunc w ow fault (issueSt fault s .fstatDst) := by
  unfold stageFstatDst; simp only [issue_eq]
  rcases fault .fstatDst (s.count .fstatDst) with _ | ⟨e⟩ | ⟨n⟩ <;> rfl

theorem stageTrunc_eq (s : St) : stageTrunc w ow fault s =
    if w.dst = .sameAsSrc then finishR fault s true true stBadArg
    else if ow then
      match fault .ftruncate (s.count .ftruncate) with
      | some (.err e) =>
        finishR fault { issueSt fault s .ftruncate with errno := e } true true (errnoStatus e)
      | _ => stageCopy w fault { issueSt fault s .ftruncate with dst := some [] }
    else stageCopy w fault s := by
  unfold stageTrunc
  by_cases hd : w.dst = .sameAsSrc
  · simp only [hd, if_true, beq_self_eq_true]; rfl
  · have hd' : (w.dst == Dst.sameAsSrc) = false := by simpa using hd
    simp only [hd', if_neg hd, Bool.false_eq_true, if_false]
    cases ow
    · rfl
    · simp only [if_true, issue_eq]
      rcases fault .ftruncate (s.count .ftruncate) with _ | ⟨e⟩ | ⟨n⟩ <;> rfl

theorem stageCopy_eq (s : St) : stageCopy w fault s =
    if w.sizeKnown = false ∨ s.src.length = 0 then stageFallback w fault s
    else
      match (cfrLoop fault (s.src.length + 1) { s with errno := 0 } s.src.length).2 with
      | some st =>
        finishR fault (cfrLoop fault (s.src.length + 1) { s with errno := 0 } s.src.length).1
          true true st
      | none =>
        stageFallback w fault
          (cfrLoop fault (s.src.length + 1) { s with errno := 0 } s.src.length).1 := by
  unfold stageCopy
  cases w.sizeKnown
  · simp
  · by_cases h0 : s.src.length = 0
    · simp [h0]
    · simp only [if_true, if_neg h0, Bool.true_eq_false, false_or]
      show (match cfrLoop fault (s.src.length + 1) { s with errno := 0 } s.src.length with
        | (s, some st) => _ | (s, none) => _) = _
      rcases cfrLoop fault (s.src.length + 1) { s with errno := 0 } s.src.length with
        ⟨s', _ | st⟩ <;> rfl

/-- The user-space copy's buffer: `stack_buf[512]` when the block is refused. -/
def bufSizeOf (f : Option Fault) : Nat := match f with | some _ => 512 | none => w.blk

theorem stageFallback_eq (s : St) : stageFallback w fault s =
    finishR fault
      (freeOne fault
        (copyBlocks fault (bufSizeOf w (fault .alloc (s.count .alloc))) (s.src.length + 2)
          { issueSt fault s .alloc with errno := 0 } (s.dst.getD []).length).1) true true
      (copyBlocks fault (bufSizeOf w (fault .alloc (s.count .alloc))) (s.src.length + 2)
        { issueSt fault s .alloc with errno := 0 } (s.dst.getD []).length).2 := by
  delta stageFallback finishR bufSizeOf
  rfl

theorem freeOne_eq (s : St) : freeOne fault s = { issueSt fault s .free with errno := 0 } := by
  unfold freeOne; simp only [issue_eq]
  rcases fault .free (s.count .free) with _ | ⟨e⟩ | ⟨n⟩ <;> rfl

end

/-- `s'` comes from `s` by calls of the kinds in `cs` only, `n` of them closes.  A definition that
unfolds, not a structure: what holds of `s'` then holds as it stands of `{ s' with dst := _ }` and
`{ s' with errno := _ }`. -/
def Calls (cs : List Call) (n : Nat) (s s' : St) : Prop :=
  s'.src = s.src ∧ s'.opened = s.opened ∧ s'.closed = s.closed + n ∧
    ∀ c, c ∉ cs → s'.count c = s.count c

section
variable {cs : List Call} {n : Nat} {s s' : St} (h : Calls cs n s s')
include h

theorem Calls.src : s'.src = s.src := h.1

theorem Calls.opened : s'.opened = s.opened := h.2.1

theorem Calls.closed : s'.closed = s.closed + n := h.2.2.1

theorem Calls.count {c : Call} (hc : c ∉ cs) : s'.count c = s.count c := h.2.2.2 c hc

end

theorem Calls.rfl {cs : List Call} {s : St} : Calls cs 0 s s :=
  ⟨.refl _, .refl _, .refl _, fun _ _ => .refl _⟩

theorem Calls.trans {cs : List Call} {n m : Nat} {s s' s'' : St} (h : Calls cs n s s')
    (h' : Calls cs m s' s'') : Calls cs (n + m) s s'' :=
  ⟨h'.src.trans h.src, h'.opened.trans h.opened, by rw [h'.closed, h.closed, Nat.add_assoc],
    fun _ hc => (h'.count hc).trans (h.count hc)⟩

theorem Calls.after {cs : List Call} {n : Nat} {s s' s'' : St} (h' : Calls cs n s' s'')
    (h : Calls cs 0 s s') : Calls cs n s s'' := by
  simpa using h.trans h'

theorem Calls.issue (fault : Call → Nat → Option Fault) {cs : List Call} (s : St) {c : Call}
    (hc : c ∈ cs) : Calls cs 0 s (issueSt fault s c) :=
  ⟨.refl _, .refl _, .refl _,
    fun c' h => (issueSt_count fault s c c').trans (if_neg fun (e : c' = c) => h (e ▸ hc))⟩

theorem Calls.mono {cs cs' : List Call} {n : Nat} {s s' : St} (h : Calls cs n s s')
    (hsub : ∀ c ∈ cs, c ∈ cs') : Calls cs' n s s' :=
  ⟨h.src, h.opened, h.closed, fun c hc => h.count fun hm => hc (hsub c hm)⟩

section
variable (w : World) (ow : Bool) (fault : Call → Nat → Option Fault)

/-- A failing call that `zix_copy_file` gets over: a refused block, whatever the release leaves in
errno, a kernel copy refused with EXDEV, EINVAL or ENOSYS.  A sufficient set, not the exact one:
ENOTSUP (95) maps to NOT_SUPPORTED too (`cfrStatus 95 = none`), so a kernel copy failing with it
takes the fallback as well. -/
def Tolerated (c : Call) (e : Int) : Prop :=
  c = .alloc ∨ c = .free ∨ (c = .cfr ∧ (e = EXDEV ∨ e = EINVAL ∨ e = ENOSYS))

/-- Why a copy can fail: a failing call that is not tolerated, a `write` that writes nothing, a
source that is no regular file, a destination that may not be written.  A property of the oracle and
the world, not of the run: `failed` and `stuck` say that `fault` HAS such an entry, consulted or
not; the failing call is not located. -/
inductive Cause : Prop
  | failed {c : Call} {n : Nat} {e : Int} (hf : fault c n = some (.err e)) (hc : ¬ Tolerated c e)
  | stuck {n : Nat} (hf : fault .write n = some (.short 0))
  | source (h : w.srcKind ≠ .regular)
  | dest (h : ¬ (w.dst = .absent ∨ (ow = true ∧ ∃ c, w.dst = .file c)))

variable {w ow fault}

theorem Cause.err {c : Call} {n : Nat} {e : Int} (hf : fault c n = some (.err e))
    (h1 : c ≠ .alloc := by decide) (h2 : c ≠ .free := by decide) (h3 : c ≠ .cfr := by decide) :
    Cause w ow fault :=
  .failed hf fun h => h.elim h1 fun h => h.elim h2 fun h => h3 h.1
end

section
variable (w : World) (ow : Bool) (fault : Call → Nat → Option Fault)

theorem closeFds_eq (s : St) (h1 h2 : Bool) : closeFds fault s h1 h2 =
    (let r1 := closeOne fault .closeDst s h1
     let r2 := closeOne fault .closeSrc r1.1 h2
     (r2.1, if errnoStatus s.errno ≠ 0 then errnoStatus s.errno
            else if (if r1.2 then errnoStatus r1.1.errno else 0) ≠ 0 then
              (if r1.2 then errnoStatus r1.1.errno else 0)
            else (if r2.2 then errnoStatus r2.1.errno else 0))) := rfl

theorem finishCopy_eq (s : St) (dOpen sOpen : Bool) (status : Int) :
    finishCopy fault s dOpen sOpen status =
    (let r0 := syncOne fault s dOpen
     let r1 := closeFds fault r0.1 dOpen sOpen
     (r1.1, if status ≠ 0 then status else if r0.2 ≠ 0 then r0.2 else r1.2)) := rfl

/-- A call of kind `c`, made only if `hv`, whose failure is kept in `errno` and reported as the
status `st`, has taken `s` to `s'`, closing `n` descriptors. -/
structure Issued (c : Call) (hv : Bool) (n : Nat) (s s' : St) (st : Int) : Prop where
  calls : Calls [c] n s s'
  dst : s'.dst = s.dst
  ok : (hv = true → ∀ e, fault c (s.count c) ≠ some (.err e)) → st = 0 ∧ s'.errno = s.errno
  bad : ∀ e, hv = true → fault c (s.count c) = some (.err e) → e ≠ 0 → st ≠ 0

theorem closeOne_issued (c : Call) (s : St) (hv : Bool) :
    Issued fault c hv hv.toNat s (closeOne fault c s hv).1
      (if (closeOne fault c s hv).2 then errnoStatus (closeOne fault c s hv).1.errno else 0) := by
  unfold closeOne
  cases hv
  · exact ⟨.rfl, rfl, fun _ => ⟨rfl, rfl⟩, fun _ h => nomatch h⟩
  · simp only [issue_eq, if_true]
    have h := Calls.issue fault s (List.mem_singleton_self c)
    rcases hf : fault c (s.count c) with _ | ⟨e⟩ | ⟨n⟩
    case some.err =>
      exact ⟨⟨h.src, h.opened, rfl, fun _ => h.count⟩, rfl, fun h => absurd hf (h rfl e),
        fun e' _ he' hne => by
          cases hf.symm.trans he'
          exact errnoStatus_ne_zero hne⟩
    -- no fault or a short count: the call succeeds
    all_goals
      exact ⟨⟨h.src, h.opened, rfl, fun _ => h.count⟩, rfl, fun _ => ⟨rfl, rfl⟩,
        fun _ _ h => nomatch hf.symm.trans h⟩

theorem syncOne_issued (s : St) (hv : Bool) :
    Issued fault .fdatasync hv 0 s (syncOne fault s hv).1 (syncOne fault s hv).2 := by
  unfold syncOne
  cases hv
  · exact ⟨.rfl, rfl, fun _ => ⟨rfl, rfl⟩, fun _ h => nomatch h⟩
  · simp only [issue_eq, if_true]
    have h := Calls.issue fault s (List.mem_singleton_self Call.fdatasync)
    rcases hf : fault .fdatasync (s.count .fdatasync) with _ | ⟨e⟩ | ⟨n⟩
    case some.err =>
      exact ⟨h, rfl, fun h => absurd hf (h rfl e),
        fun e' _ he' hne => by
          cases hf.symm.trans he'
          exact errnoStatus_ne_zero hne⟩
    all_goals exact ⟨h, rfl, fun _ => ⟨rfl, rfl⟩, fun _ _ h => nomatch hf.symm.trans h⟩

theorem ite3_zero_iff {a b c : Int} :
    (if a ≠ 0 then a else if b ≠ 0 then b else c) = 0 ↔ a = 0 ∧ b = 0 ∧ c = 0 := by
  by_cases ha : a = 0
  · by_cases hb : b = 0
    · simp [ha, hb]
    · simp [ha, hb]
  · simp [ha]

/-- `finishCopy fault s dOpen sOpen status` (the flags: is the descriptor open?) has ended in the
state `s'` with the status `st`. -/
structure FinishEnd (s : St) (dOpen sOpen : Bool) (status : Int) (s' : St) (st : Int) : Prop where
  calls : Calls [.fdatasync, .closeDst, .closeSrc] (dOpen.toNat + sOpen.toNat) s s'
  dst : s'.dst = s.dst
  pass : status ≠ 0 → st = status
  cause : st ≠ 0 → status ≠ 0 ∨ s.errno ≠ 0 ∨ Cause w ow fault
  /-- a failing `fdatasync` or `close` (with a proper errno) is reported -/
  bad : ∀ c e, (dOpen = true ∧ (c = .fdatasync ∨ c = .closeDst)) ∨ (sOpen = true ∧ c = .closeSrc) →
    fault c (s.count c) = some (.err e) → e ≠ 0 → st ≠ 0

theorem finishR_end (s : St) (dOpen sOpen : Bool) (status : Int) :
    FinishEnd w ow fault s dOpen sOpen status (finishR fault s dOpen sOpen status).st
      (finishR fault s dOpen sOpen status).status := by
  show FinishEnd w ow fault s dOpen sOpen status (finishCopy fault s dOpen sOpen status).1
    (finishCopy fault s dOpen sOpen status).2
  simp only [finishCopy_eq, closeFds_eq]
  have i0 := syncOne_issued fault s dOpen
  have i1 := closeOne_issued fault .closeDst (syncOne fault s dOpen).1 dOpen
  have i2 := closeOne_issued fault .closeSrc
    (closeOne fault .closeDst (syncOne fault s dOpen).1 dOpen).1 sOpen
  -- the three calls see the counters `finishCopy` was entered with
  have k1 : (syncOne fault s dOpen).1.count .closeDst = s.count .closeDst :=
    i0.calls.count (by decide)
  have k2 : (closeOne fault .closeDst (syncOne fault s dOpen).1 dOpen).1.count .closeSrc =
      s.count .closeSrc :=
    (i1.calls.count (by decide)).trans (i0.calls.count (by decide))
  refine ⟨?_, i2.dst.trans (i1.dst.trans i0.dst), fun h => if_pos h, fun h => ?_,
    fun c e hc hf he h0 => ?_⟩
  · have := (i0.calls.mono (cs' := [.fdatasync, .closeDst, .closeSrc]) (by decide)).trans
      ((i1.calls.mono (by decide)).trans (i2.calls.mono (by decide)))
    rwa [Nat.zero_add] at this
  · by_cases h1 : status = 0
    · by_cases h2 : s.errno = 0
      · refine Or.inr (Or.inr (Classical.byContradiction fun hno => h ?_))
        obtain ⟨a0, e0⟩ := i0.ok fun _ e hf => hno (Cause.err hf)
        obtain ⟨a1, _⟩ := i1.ok fun _ e hf => hno (Cause.err hf)
        obtain ⟨a2, _⟩ := i2.ok fun _ e hf => hno (Cause.err hf)
        exact ite3_zero_iff.2 ⟨h1, a0, ite3_zero_iff.2 ⟨by rw [e0, h2]; rfl, a1, a2⟩⟩
      · exact Or.inr (Or.inl h2)
    · exact Or.inl h1
  · obtain ⟨_, a0, a⟩ := ite3_zero_iff.1 h0
    obtain ⟨_, a1, a2⟩ := ite3_zero_iff.1 a
    rcases hc with ⟨hv, rfl | rfl⟩ | ⟨hv, rfl⟩
    · exact i0.bad e hv hf he a0
    · exact i1.bad e hv (by rw [k1]; exact hf) he a1
    · exact i2.bad e hv (by rw [k2]; exact hf) he a2

variable {w ow fault} in
theorem FinishEnd.status_zero {s : St} {dOpen sOpen : Bool} {status : Int} {s' : St} {st : Int}
    (h : FinishEnd w ow fault s dOpen sOpen status s' st) (h0 : st = 0) : status = 0 :=
  Classical.byContradiction fun hne => hne ((h.pass hne).symm.trans h0)

end

section
variable (w : World) (ow : Bool) (fault : Call → Nat → Option Fault)

/-- Bytes moved by a `read`, `write` or `copy_file_range` with outcome `f` when `avail` are asked
for: a short count is honoured between `lo` and `avail`. -/
def xfer (f : Option Fault) (lo avail : Nat) : Nat :=
  match f with | some (.short n) => min (max n lo) avail | _ => avail

theorem xfer_le (f : Option Fault) (lo avail : Nat) : xfer f lo avail ≤ avail := by
  fun_cases xfer f lo avail <;> omega

theorem xfer_pos (f : Option Fault) {avail : Nat} (h : 0 < avail) : 0 < xfer f 1 avail := by
  fun_cases xfer f 1 avail <;> omega

theorem xfer_eq_zero {f : Option Fault} {avail : Nat} (h : xfer f 0 avail = 0) (ha : 0 < avail) :
    f = some (.short 0) := by
  unfold xfer at h
  split at h
  · rename_i n; have : n = 0 := by omega
    rw [this]
  · omega

/-- What a failed `copy_file_range` makes of its errno: `none` = NOT_SUPPORTED, the caller falls
back. -/
def cfrStatus (e : Int) : Option Int :=
  if errnoStatus (if e = EXDEV ∨ e = EINVAL then ENOSYS else e) = 10 then none
  else some (errnoStatus (if e = EXDEV ∨ e = EINVAL then ENOSYS else e))

theorem cfrStatus_ne_zero {e : Int} (he : e ≠ 0) : cfrStatus e ≠ some 0 := by
  unfold cfrStatus
  have he' : (if e = EXDEV ∨ e = EINVAL then ENOSYS else e) ≠ 0 := by
    split
    · decide
    · exact he
  generalize (if e = EXDEV ∨ e = EINVAL then ENOSYS else e) = e' at he' ⊢
  split
  · exact nofun
  · exact fun h => errnoStatus_ne_zero he' (Option.some.inj h)

theorem cfrStatus_unsupported {e : Int} (h : e = EXDEV ∨ e = EINVAL ∨ e = ENOSYS) :
    cfrStatus e = none := by
  rcases h with h | h | h
  all_goals subst h; decide

theorem cfrLoop_succ (fuel : Nat) (s : St) (r : Nat) : cfrLoop fault (fuel + 1) s r =
    if r = 0 then (s, some 0) else
    match fault .cfr (s.count .cfr) with
    | some (.err e) => ({ issueSt fault s .cfr with errno := e }, cfrStatus e)
    | f =>
      cfrLoop fault fuel
        { issueSt fault s .cfr with
          dst := some (s.dst.getD [] ++ (s.src.drop (s.src.length - r)).take (xfer f 1 r)) }
        (r - xfer f 1 r) := by
  rw [cfrLoop]; simp only [issue_eq]
  split
  · rfl
  · rcases fault .cfr (s.count .cfr) with _ | ⟨e⟩ | ⟨n⟩
    · rfl
    · exact (apply_ite (Prod.mk _) _ _ _).symm
    · rfl

structure CfrEnd (s : St) (out : St × Option Int) : Prop where
  calls : Calls [.cfr] 0 s out.1
  dst : ∃ d, d ≤ s.src.length ∧ out.1.dst = some (s.src.take d) ∧
    (C14.Legal fault → out.2 = some 0 → d = s.src.length)
  errno : out.2 = some 0 → s.errno = 0 → out.1.errno = 0
  cause : ∀ st, out.2 = some st → st ≠ 0 → Cause w ow fault

/-- `hf`, here and in `writeAll_end`, `copyBlocks_end`: a round that does not end the loop moves at
least one byte, so the fuel `copyFile` passes is never used up and what the loops return at fuel 0
is never seen. -/
theorem cfrLoop_end (fuel : Nat) (s : St) (r : Nat) (hr : r ≤ s.src.length) (hf : r < fuel)
    (hd : s.dst = some (s.src.take (s.src.length - r))) :
    CfrEnd w ow fault s (cfrLoop fault fuel s r) := by
  induction fuel generalizing s r with
  | zero => omega
  | succ fuel ih =>
    rw [cfrLoop_succ]
    split
    · rename_i h0
      exact ⟨.rfl, ⟨_, Nat.sub_le _ _, hd, fun _ _ => by rw [h0]; rfl⟩, fun _ he => he,
        fun st h hne => absurd (Option.some.inj h).symm hne⟩
    rename_i h0
    generalize hq : fault .cfr (s.count .cfr) = f
    split
    · rename_i e
      refine ⟨Calls.issue fault s (List.mem_singleton_self _),
        ⟨_, Nat.sub_le _ _, hd, fun hl h => absurd h (cfrStatus_ne_zero (hl _ _ _ hq))⟩,
        fun h _ => Classical.byContradiction fun he => cfrStatus_ne_zero he h, fun st h _ => ?_⟩
      exact .failed hq fun ht => ht.elim nofun fun ht => ht.elim nofun fun ht => by
        rw [cfrStatus_unsupported ht.2] at h; cases h
    · have hk := xfer_le f 1 r
      have hp := xfer_pos f (Nat.pos_of_ne_zero h0)
      have := ih
        { issueSt fault s .cfr with
          dst := some (s.dst.getD [] ++ (s.src.drop (s.src.length - r)).take (xfer f 1 r)) }
        (r - xfer f 1 r)
        (Nat.le_trans (Nat.sub_le _ _) hr) (by omega)
        (by show some _ = some _; rw [hd]
            exact congrArg some (List.take_add.symm.trans (congrArg s.src.take
              (show s.src.length - r + xfer f 1 r = s.src.length - (r - xfer f 1 r) by omega))))
      exact ⟨this.calls.after (Calls.issue fault s (List.mem_singleton_self _)), this.dst,
        this.errno, this.cause⟩

theorem writeAll_succ (fuel : Nat) (s : St) (chunk : List Nat) : writeAll fault (fuel + 1) s chunk =
    if chunk = [] then (s, none) else
    match fault .write (s.count .write) with
    | some (.err e) => ({ issueSt fault s .write with errno := e }, some (errnoStatus e))
    | f =>
      if xfer f 0 chunk.length = 0 then (issueSt fault s .write, some stError)
      else
        writeAll fault fuel
          { issueSt fault s .write with
            dst := some (s.dst.getD [] ++ chunk.take (xfer f 0 chunk.length)) }
          (chunk.drop (xfer f 0 chunk.length)) := by
  rw [writeAll]; simp only [issue_eq]
  split
  · rfl
  · rcases fault .write (s.count .write) with _ | ⟨e⟩ | ⟨n⟩
    · rfl
    · rfl
    · simp only [xfer, Nat.max_zero]; rfl

structure WriteEnd (s : St) (chunk : List Nat) (out : St × Option Int) : Prop where
  calls : Calls [.write] 0 s out.1
  done : out.2 = none → out.1.errno = s.errno ∧ ∀ d, s.dst = some d → out.1.dst = some (d ++ chunk)
  cause : ∀ st, out.2 = some st → (C14.Legal fault → st ≠ 0) ∧ Cause w ow fault

theorem writeAll_end (fuel : Nat) (s : St) (chunk : List Nat) (hf : chunk.length < fuel) :
    WriteEnd w ow fault s chunk (writeAll fault fuel s chunk) := by
  induction fuel generalizing s chunk with
  | zero => omega
  | succ fuel ih =>
    rw [writeAll_succ]
    split
    · rename_i h0; subst h0
      exact ⟨.rfl, fun _ => ⟨rfl, fun d hd => by rw [hd, List.append_nil]⟩, nofun⟩
    rename_i h0
    have hlen : 0 < chunk.length := List.length_pos_iff.2 h0
    have hi := Calls.issue fault s (List.mem_singleton_self Call.write)
    generalize hq : fault .write (s.count .write) = f
    split
    · exact ⟨hi, nofun, fun st h =>
        ⟨fun hl => by cases h; exact errnoStatus_ne_zero (hl _ _ _ hq), Cause.err hq⟩⟩
    · split
      · rename_i hk
        exact ⟨hi, nofun, fun st h =>
          ⟨fun _ => by cases h; decide, .stuck (hq.trans (xfer_eq_zero hk hlen))⟩⟩
      · have := ih
          { issueSt fault s .write with
            dst := some (s.dst.getD [] ++ chunk.take (xfer f 0 chunk.length)) }
          (chunk.drop (xfer f 0 chunk.length)) (by rw [List.length_drop]; omega)
        refine ⟨this.calls.after hi, fun h => ⟨(this.done h).1, fun d hd => ?_⟩, this.cause⟩
        have := (this.done h).2 (d ++ chunk.take (xfer f 0 chunk.length)) (by
          show some _ = some _
          rw [hd]; rfl)
        rwa [List.append_assoc, List.take_append_drop] at this

theorem copyBlocks_succ (bufSize fuel : Nat) (s : St) (off : Nat) :
    copyBlocks fault bufSize (fuel + 1) s off =
      match fault .read (s.count .read) with
      | some (.err e) => ({ issueSt fault s .read with errno := e }, errnoStatus e)
      | f =>
        cbStep fault bufSize fuel (issueSt fault s .read) off
          (xfer f 1 (min bufSize (s.src.length - off))) := by
  rw [copyBlocks]; simp only [issue_eq]
  rcases fault .read (s.count .read) with _ | ⟨e⟩ | ⟨n⟩ <;> rfl

structure CopyEnd (bufSize : Nat) (s : St) (out : St × Int) : Prop where
  calls : Calls [.read, .write] 0 s out.1
  done : C14.Legal fault → 0 < bufSize → out.2 = 0 → out.1.dst = some s.src
  cause : out.2 ≠ 0 → Cause w ow fault

/-- `hk0`: a `read` of no bytes is the end of the source, given a buffer that is not empty. -/
theorem cbStep_end (bufSize fuel : Nat)
    (ih : ∀ (s : St) off, off ≤ s.src.length → s.src.length - off < fuel →
      s.dst = some (s.src.take off) →
      CopyEnd w ow fault bufSize s (copyBlocks fault bufSize fuel s off))
    (s : St) (off k : Nat) (hk : k ≤ s.src.length - off)
    (hk0 : 0 < bufSize → k = 0 → off = s.src.length) (hf : s.src.length - off < fuel + 1)
    (hd : s.dst = some (s.src.take off)) :
    CopyEnd w ow fault bufSize s (cbStep fault bufSize fuel s off k) := by
  have hw := writeAll_end w ow fault (k + 1) s ((s.src.drop off).take k)
    (by rw [List.length_take]; omega)
  fun_cases cbStep fault bufSize fuel s off k with
  -- the `read` returned nothing; the write fails; the chunk is written and the loop goes on
  | case1 hk' =>
    exact ⟨.rfl, fun _ hb _ => by rw [hd, hk0 hb hk', List.take_length], fun h => absurd rfl h⟩
  | case2 _ s' st hw' =>
    rw [hw'] at hw
    exact ⟨hw.calls.mono (by decide), fun hl _ h0 => absurd h0 ((hw.cause st rfl).1 hl),
      fun _ => (hw.cause st rfl).2⟩
  | case3 _ s' hw' =>
    rw [hw'] at hw
    have hsrc := hw.calls.src
    have hd' := (hw.done rfl).2 _ hd
    rw [← List.take_add] at hd'
    have := ih s' (off + k) (by rw [hsrc]; omega) (by rw [hsrc]; omega) (by rw [hsrc]; exact hd')
    exact ⟨this.calls.after (hw.calls.mono (by decide)),
      fun hl hb h0 => hsrc ▸ this.done hl hb h0, this.cause⟩

theorem copyBlocks_end (bufSize fuel : Nat) (s : St) (off : Nat) (hoff : off ≤ s.src.length)
    (hf : s.src.length - off < fuel) (hd : s.dst = some (s.src.take off)) :
    CopyEnd w ow fault bufSize s (copyBlocks fault bufSize fuel s off) := by
  induction fuel generalizing s off with
  | zero => omega
  | succ fuel ih =>
    rw [copyBlocks_succ]
    have hi : Calls [.read, .write] 0 s (issueSt fault s .read) := Calls.issue fault s (by decide)
    generalize hq : fault .read (s.count .read) = f
    split
    · exact ⟨hi, fun hl _ h => absurd h (errnoStatus_ne_zero (hl _ _ _ hq)), fun _ => Cause.err hq⟩
    · have := cbStep_end w ow fault bufSize fuel ih (issueSt fault s .read) off _
        (Nat.le_trans (xfer_le f 1 _) (Nat.min_le_right _ _))
        -- where the two assumptions meet: `0 < bufSize` (from `0 < w.blk`) and bytes left make the
        -- `read` ask for at least one, and a `read` that asks for one delivers one (`xfer_pos`); so
        -- 0 bytes is end of file
        (fun hb h0 => Classical.byContradiction fun (hne : ¬ off = s.src.length) =>
          absurd h0
            (Nat.ne_of_gt (xfer_pos f (show 0 < min bufSize (s.src.length - off) by omega))))
        hf hd
      exact ⟨this.calls.after hi, this.done, this.cause⟩
end

section
variable (w : World) (ow : Bool) (fault : Call → Nat → Option Fault)

/-- What the destination held is still there in `s`, if it is the source itself or there is no
permission to overwrite. -/
def Kept (s : St) : Prop :=
  ∀ c, (initSt w).dst = some c → w.dst = .sameAsSrc ∨ ow = false → s.dst = some c

/-- On the way: `n` descriptors are open, none was closed or synced, the source is what it was, and
a source that reports no size has met no `copy_file_range`. -/
structure Running (n : Nat) (s : St) : Prop where
  src : s.src = w.src
  opened : s.opened = n
  closed : s.closed = 0
  /-- nothing of what `finishCopy` does has been done yet -/
  fresh : ∀ c ∈ [Call.fdatasync, .closeDst, .closeSrc], s.count c = 0
  cfr : w.sizeKnown = false → s.count .cfr = 0

/-- A run that reaches its `finishCopy` with status 0 (all failing calls having set a proper errno)
has both files open, two different regular files, and has copied everything. -/
structure Copied (s : St) (dOpen sOpen : Bool) : Prop where
  both : dOpen = true ∧ sOpen = true
  regular : w.srcKind = .regular
  notSame : w.dst ≠ .sameAsSrc
  complete : 0 < w.blk → s.dst = some w.src

/-- Every run ends in one `finishCopy fault s dOpen sOpen st`; this is what is known about its
arguments. -/
structure Exit (s : St) (dOpen sOpen : Bool) (st : Int) : Prop where
  run : Running w (dOpen.toNat + sOpen.toNat) s
  errno : st = 0 → s.errno = 0
  kept : Kept w ow s
  cause : st ≠ 0 → Cause w ow fault
  success : C14.Legal fault → st = 0 → Copied w s dOpen sOpen

/-- `s dOpen sOpen st` are the arguments of the one `finishCopy` the run ends in (`Exit.ends`); that
the outcome `r` is its result is not kept, only what `FinishEnd` says of it. -/
def Ends (r : Result) : Prop :=
  ∃ s dOpen sOpen st,
    Exit w ow fault s dOpen sOpen st ∧ FinishEnd w ow fault s dOpen sOpen st r.st r.status

variable {w ow fault}

theorem Exit.ends {s : St} {dOpen sOpen : Bool} {st : Int} (h : Exit w ow fault s dOpen sOpen st) :
    Ends w ow fault (finishR fault s dOpen sOpen st) :=
  ⟨s, dOpen, sOpen, st, h, finishR_end w ow fault s dOpen sOpen st⟩

theorem Running.calls {n : Nat} {s s' : St} {cs : List Call} (h : Running w n s)
    (hc : Calls cs 0 s s')
    (h0 : ∀ c ∈ [Call.fdatasync, .closeDst, .closeSrc], c ∉ cs := by decide)
    (h1 : w.sizeKnown = false → Call.cfr ∉ cs := by exact fun _ => by decide) : Running w n s' :=
  ⟨hc.src.trans h.src, hc.opened.trans h.opened, hc.closed.trans h.closed,
    fun c hm => (hc.count (h0 c hm)).trans (h.fresh c hm),
    fun hk => (hc.count (h1 hk)).trans (h.cfr hk)⟩

theorem Running.issue {n : Nat} {s : St} (h : Running w n s) (c : Call)
    (h0 : c ∉ [Call.fdatasync, .closeDst, .closeSrc] := by decide) (h1 : c ≠ .cfr := by decide) :
    Running w n (issueSt fault s c) :=
  h.calls (Calls.issue fault s (List.mem_singleton_self c))
    (fun _ hm hc => h0 (List.eq_of_mem_singleton hc ▸ hm))
    (fun _ hc => h1 (List.eq_of_mem_singleton hc).symm)

theorem Running.errno {n : Nat} {s : St} (h : Running w n s) (e : Int) :
    Running w n { s with errno := e } :=
  ⟨h.src, h.opened, h.closed, h.fresh, h.cfr⟩

theorem Running.exit {s : St} {dOpen sOpen : Bool} (h : Running w (dOpen.toNat + sOpen.toNat) s)
    {st : Int} (hst : C14.Legal fault → st ≠ 0) (herr : st = 0 → s.errno = 0)
    (hcause : Cause w ow fault) (hkept : Kept w ow s) : Exit w ow fault s dOpen sOpen st :=
  ⟨h, herr, hkept, fun _ => hcause, fun hl h0 => absurd h0 (hst hl)⟩

theorem Running.fail {s : St} {dOpen sOpen : Bool} (h : Running w (dOpen.toNat + sOpen.toNat) s)
    {c : Call} {n : Nat} {e : Int}
    (hf : fault c n = some (.err e)) (hcause : Cause w ow fault) (hkept : Kept w ow s) :
    Exit w ow fault { s with errno := e } dOpen sOpen (errnoStatus e) :=
  (h.errno e).exit (fun hl => errnoStatus_ne_zero (hl _ _ _ hf)) (errnoStatus_eq_zero_iff e).1
    hcause hkept

variable (w ow fault)

theorem dstErrOf_none {f : Option Fault} (h : dstErrOf w false f = none) : w.dst = .absent := by
  revert h
  fun_cases dstErrOf w false f
  all_goals intro h; cases h
  · assumption
  · contradiction

theorem dstErrOf_some {f : Option Fault} {e : Int} (h : dstErrOf w ow f = some e) :
    f = some (.err e) ∨ (e ≠ 0 ∧ ¬ (w.dst = .absent ∨ (ow = true ∧ ∃ c, w.dst = .file c))) := by
  revert h
  fun_cases dstErrOf w ow f
  all_goals intro h; cases h
  · exact Or.inl rfl
  · cases ow <;> exact Or.inr ⟨by decide, by simp [*]⟩
  · rename_i how _ hab _; exact Or.inr ⟨by decide, fun h => h.elim hab fun h => how h.1⟩

theorem openErrOf_none {f : Option Fault} (h : openErrOf w f = none) :
    (∀ e, f ≠ some (.err e)) ∧ w.srcKind ≠ .missing := by
  unfold openErrOf at h
  split at h
  · cases h
  · rename_i hne
    exact ⟨hne, fun hm => by rw [if_pos hm] at h; cases h⟩

theorem openErrOf_some {f : Option Fault} {e : Int} (h : openErrOf w f = some e) :
    f = some (.err e) ∨ (e ≠ 0 ∧ w.srcKind ≠ .regular) := by
  revert h
  fun_cases openErrOf w f
  all_goals intro h; cases h
  · exact Or.inl rfl
  · rename_i hm _; exact Or.inr ⟨by decide, by rw [hm]; decide⟩

/-- `hk`: the destination is another file and may be overwritten, or is new: `Kept` asks nothing any
more. -/
theorem stageFallback_ends (s : St) (hp : Running w 2 s) (hreg : w.srcKind = .regular)
    (hns : w.dst ≠ .sameAsSrc) (hk : ∀ s', Kept w ow s') (d : Nat) (hd : d ≤ s.src.length)
    (hdst : s.dst = some (s.src.take d)) : Ends w ow fault (stageFallback w fault s) := by
  rw [stageFallback_eq, freeOne_eq]
  refine Exit.ends ?_
  have hlen : (s.dst.getD []).length = d := by rw [hdst, Option.getD_some, List.length_take]; omega
  rw [hlen]
  -- what is known of the read/write loop, then the loop itself is a variable
  have he := copyBlocks_end w ow fault (bufSizeOf w (fault .alloc (s.count .alloc)))
    (s.src.length + 2) { issueSt fault s .alloc with errno := 0 } d hd
    (Nat.lt_succ_of_le (Nat.le_succ_of_le (Nat.sub_le _ _))) hdst
  generalize copyBlocks fault _ _ _ d = r at he ⊢
  have hq := ((((hp.issue (fault := fault) .alloc).errno 0).calls he.calls).issue
    (fault := fault) .free).errno 0
  refine ⟨hq, fun _ => rfl, hk _, he.cause, fun hl h0 => ⟨⟨rfl, rfl⟩, hreg, hns, fun hblk => ?_⟩⟩
  rw [← hp.src]; exact he.done hl (by unfold bufSizeOf; split <;> omega) h0

theorem stageCopy_ends (s : St) (hp : Running w 2 s) (hreg : w.srcKind = .regular)
    (hns : w.dst ≠ .sameAsSrc) (hk : ∀ s', Kept w ow s') (hdst : s.dst = some []) :
    Ends w ow fault (stageCopy w fault s) := by
  rw [stageCopy_eq]
  split
  · exact stageFallback_ends w ow fault s hp hreg hns hk 0 (Nat.zero_le _) (by rw [hdst]; rfl)
  rename_i hc
  have he := cfrLoop_end w ow fault (s.src.length + 1) { s with errno := 0 } s.src.length
    (Nat.le_refl _) (Nat.lt_succ_self _) (by
      show s.dst = _
      rw [Nat.sub_self, hdst]; rfl)
  have hq := (hp.errno 0).calls he.calls (h1 := fun hk => absurd (Or.inl hk) hc)
  obtain ⟨d, hdle, hd', hz⟩ := he.dst
  split
  · rename_i st heq
    refine Exit.ends ⟨hq, fun h0 => he.errno (h0 ▸ heq) rfl, hk _, he.cause st heq,
      fun hl h0 => ⟨⟨rfl, rfl⟩, hreg, hns, fun _ => ?_⟩⟩
    rw [hd', hz hl (h0 ▸ heq)]; exact congrArg some (List.take_length.trans hp.src)
  · have hsrc := hq.src.trans hp.src.symm
    exact stageFallback_ends w ow fault _ hq hreg hns hk d (by rw [hsrc]; exact hdle)
      (by rw [hsrc]; exact hd')

/-- `hnew`: without permission to overwrite, `open(dst)` succeeds only by creating the file, which
is then empty. -/
theorem stageFstatDst_ends (s : St) (hp : Running w 2 s) (hreg : w.srcKind = .regular)
    (hk : Kept w ow s) (hnew : ow = false → (initSt w).dst = none ∧ s.dst = some []) :
    Ends w ow fault (stageFstatDst w ow fault s) := by
  have h1 := hp.issue (fault := fault) .fstatDst
  rw [stageFstatDst_eq]
  split
  · rename_i e hf
    exact Exit.ends (h1.fail hf (Cause.err hf) hk)
  rw [stageTrunc_eq]
  split
  · rename_i hsame
    exact Exit.ends (h1.exit (fun _ => by decide) (fun h => absurd h (by decide))
      (.dest fun h => by rw [hsame] at h; rcases h with h | ⟨_, _, h⟩ <;> cases h) hk)
  rename_i hns
  split
  · rename_i how
    -- not the source and permission to overwrite: `Kept` is vacuous from here on
    have k2 : ∀ s', Kept w ow s' := fun _ _ _ h =>
      (h.elim hns fun h => by rw [how] at h; cases h).elim
    have h2 := h1.issue (fault := fault) .ftruncate
    split
    · rename_i e hf
      exact Exit.ends (h2.fail hf (Cause.err hf) (k2 _))
    · exact stageCopy_ends w ow fault _ ⟨h2.src, h2.opened, h2.closed, h2.fresh, h2.cfr⟩ hreg hns k2
        rfl
  · rename_i how
    obtain ⟨hi, hd⟩ := hnew (by simpa using how)
    -- there was no destination: `Kept` is vacuous
    exact stageCopy_ends w ow fault _ h1 hreg hns (fun _ c hc _ => by rw [hi] at hc; cases hc) hd

theorem copyFile_end : Ends w ow fault (copyFile w ow fault) := by
  have h0 : Running w 0 (initSt w) := ⟨rfl, rfl, rfl, fun _ _ => rfl, fun _ => rfl⟩
  have h1 := h0.issue (fault := fault) .openSrc
  have k0 : Kept w ow (initSt w) := fun _ h _ => h
  rw [copyFile_eq']
  split
  · rename_i e he
    rcases openErrOf_some w he with hf | ⟨he0, hr⟩
    · exact Exit.ends (h1.fail hf (Cause.err hf) k0)
    · exact Exit.ends ((h1.errno e).exit (fun _ => errnoStatus_ne_zero he0)
        (errnoStatus_eq_zero_iff e).1 (.source hr) k0)
  have h2 : Running w 1 { issueSt fault (initSt w) .openSrc with opened := 1 } :=
    ⟨h1.src, rfl, h1.closed, h1.fresh, h1.cfr⟩
  have h3 := h2.issue (fault := fault) .fstatSrc
  rw [stageSrc_eq]
  split
  · rename_i e hf
    exact Exit.ends (h3.fail hf (Cause.err hf) k0)
  split
  · rename_i hr
    exact Exit.ends (h3.exit (fun _ => by decide) (fun h => absurd h (by decide)) (.source hr) k0)
  rename_i hreg
  have h4 := h3.issue (fault := fault) .openDst
  rw [stageDst_eq]
  split
  · rename_i e he
    rcases dstErrOf_some w ow he with hf | ⟨he0, hd⟩
    · exact Exit.ends (h4.fail hf (Cause.err hf) k0)
    · exact Exit.ends ((h4.errno e).exit (fun _ => errnoStatus_ne_zero he0)
        (errnoStatus_eq_zero_iff e).1 (.dest hd) k0)
  rename_i hde
  -- `open(dst)` succeeded: the destination holds what it held, or nothing if it is new
  refine stageFstatDst_ends w ow fault (dstOpened fault _)
    ⟨h4.src, rfl, h4.closed, h4.fresh, h4.cfr⟩ (Classical.not_not.1 hreg)
    (fun c hc _ => by show (match (initSt w).dst with | none => some [] | d => d) = some c; rw [hc])
    fun how => ?_
  subst how
  have hi : (initSt w).dst = none := by simp [initSt, dstErrOf_none w hde]
  exact ⟨hi, by show (match (initSt w).dst with | none => some [] | d => d) = some []; rw [hi]⟩

theorem copyFile_failure_has_cause (h : (copyFile w ow fault).status ≠ 0) : Cause w ow fault := by
  obtain ⟨s, dOpen, sOpen, st, hx, hf⟩ := copyFile_end w ow fault
  rcases hf.cause h with h1 | h2 | hc
  · exact hx.cause h1
  · exact hx.cause fun h0 => h2 (hx.errno h0)
  · exact hc

theorem copyFile_kept (c : List Nat) (hc : (initSt w).dst = some c)
    (h : w.dst = .sameAsSrc ∨ ow = false) : (copyFile w ow fault).st.dst = some c := by
  obtain ⟨s, dOpen, sOpen, st, hx, hf⟩ := copyFile_end w ow fault
  exact hf.dst.trans (hx.kept c hc h)

section
variable (c : List Nat) (hd : w.dst = .file c)
include hd

theorem dstErrOf_excl_eexist (f : Option Fault) (hf : ∀ e, f ≠ some (.err e)) :
    dstErrOf w false f = some EEXIST := by
  unfold dstErrOf
  rcases f with _ | ⟨e⟩ | ⟨n⟩ <;> simp [hd]
  exact absurd rfl (hf e)

theorem copyFile_excl_status (hreg : w.srcKind = .regular)
    (h1 : fault .openSrc 0 = none) (h2 : fault .fstatSrc 0 = none)
    (h3 : ∀ e, fault .openDst 0 ≠ some (.err e)) : (copyFile w false fault).status = 4 := by
  -- each call so far is the first of its kind
  rw [copyFile_eq', h1, show openErrOf w none = none by simp [openErrOf, hreg], stageSrc_eq,
    show St.count _ Call.fstatSrc = 0 from rfl, h2]
  simp only [hreg, ne_eq, not_true_eq_false, if_false]
  rw [stageDst_eq, show St.count _ Call.openDst = 0 from rfl, dstErrOf_excl_eexist w c hd _ h3]
  exact (finishR_end w false fault ..).pass (by decide)
end
end

end Zix.CopyFile

import ZixModel.Lemmas.PathScan
/-! The component iterator after a name that ends at position `e` is `frameAfter s e`; what it does
next depends only on the remaining text `s.drop e`, whose C++17 elements are `elemsFrom (s.drop e)`.
The model functions that run the iterator on fuel (`frames`, `skipCommon`, `countBase`) are
characterised through one induction along the positions it visits (`frameAfter_induct`).  Then
`relative` as the rendering of a plan (`relPlan`) that is compared with the C++17
`lexically_relative` case by case (`planTail_eq_specTail`, `parse_relative`). -/
namespace Zix.Path.Rel
open Zix.Path Zix.PathSpec Zix.Path.Scan

/-- The iterator after a filename frame whose range ends at `e` (`next` does not read where the
frame began): every frame behind the root directory is `frameAfter s e` for some position `e`. -/
def frameAfter (s : List Nat) (e : Nat) : PathIter := next s ⟨(e, e), .fileName⟩

theorem next_end (s : List Nat) (r : Range) : next s ⟨r, .end_⟩ = ⟨r, .end_⟩ := by
  simp [next]

theorem next_rootDir (s : List Nat) (r : Range) :
    next s ⟨r, .rootDir⟩ = frameAfter s (skipSeps s (s.length + 1) r.2) := by
  simp [next, frameAfter]

theorem begin_root (s : List Nat) (h : isSep (at' s 0) = true) : begin s = ⟨(0, 1), .rootDir⟩ := by
  simp [begin, next, h]

theorem begin_noroot (s : List Nat) (h : isSep (at' s 0) = false) : begin s = frameAfter s 0 := by
  simp [begin, next, frameAfter, h, skipSeps]

theorem frameAfter_nil (s : List Nat) (h0 : 0 ∉ s) (e : Nat) (h : s.drop e = []) :
    frameAfter s e = ⟨(e, e), .end_⟩ := by
  have := (at'_eq_zero_iff h0 e).2 (List.drop_eq_nil_iff.1 h)
  simp [frameAfter, next, this]

theorem frameAfter_cons (s : List Nat) (h0 : 0 ∉ s) (e : Nat) (h : s.drop e ≠ []) :
    frameAfter s e = ⟨(e + ((s.drop e).takeWhile isSep).length,
              e + ((s.drop e).takeWhile isSep).length +
                (((s.drop e).dropWhile isSep).takeWhile notSep).length), .fileName⟩ := by
  have h1 : at' s e ≠ 0 := fun hh => h (List.drop_eq_nil_iff.2 ((at'_eq_zero_iff h0 e).1 hh))
  have hk := skipSeps_eq s e
  have hm := skipName_eq s h0 (e + ((s.drop e).takeWhile isSep).length)
  rw [drop_add_takeWhile_length] at hm
  simp [frameAfter, next, h1, hk, hm]

theorem next_of_fileName (s : List Nat) (x : PathIter) (hx : x.state = .fileName) :
    next s x = frameAfter s x.range.2 := by
  cases x with
  | mk r st =>
    simp at hx
    subst hx
    simp [next, frameAfter]

/-- The iterator at a position where text remains: it skips the separators and takes the name behind
them (an empty one at the end of the text).  `start`, `rest`: the text from the start of the range
on, and behind it. -/
structure Step (s : List Nat) (e : Nat) : Prop where
  state : (frameAfter s e).state = .fileName
  lt : e < (frameAfter s e).range.2
  le : (frameAfter s e).range.2 ≤ s.length
  width : (frameAfter s e).range.2 =
    (frameAfter s e).range.1 + (rangeText s (frameAfter s e)).length
  start : s.drop (frameAfter s e).range.1 = (s.drop e).dropWhile isSep
  rest : s.drop (frameAfter s e).range.2 = ((s.drop e).dropWhile isSep).dropWhile notSep
  elems : elemsFrom (s.drop e) =
    rangeText s (frameAfter s e) :: elemsFrom (s.drop (frameAfter s e).range.2)

theorem frameAfter_step (s : List Nat) (h0 : 0 ∉ s) (e : Nat) (h : s.drop e ≠ []) : Step s e := by
  have hG := frameAfter_cons s h0 e h
  have hd := drop_add_takeWhile_length isSep s e
  have htext : rangeText s (frameAfter s e) = ((s.drop e).dropWhile isSep).takeWhile notSep := by
    rw [hG]
    simp only [rangeText, slice]
    rw [hd, Nat.add_sub_cancel_left, take_takeWhile_length]
  have hrest : s.drop (frameAfter s e).range.2 = ((s.drop e).dropWhile isSep).dropWhile notSep := by
    rw [hG, ← List.drop_drop, hd, drop_takeWhile_length]
  refine { state := by rw [hG], lt := ?_, le := ?_, width := by rw [htext, hG],
           start := by rw [hG]; exact hd, rest := hrest,
           elems := by rw [elemsFrom_eq _ h, htext, hrest] }
  · rw [hG]
    cases hs : s.drop e with
    | nil => exact absurd hs h
    | cons c t =>
      by_cases hc : isSep c = true
      · simp [hc]; omega
      · simp [hc, notSep]
  · rw [hG]
    show e + _ + _ ≤ _
    have a1 := length_takeWhile_add_dropWhile isSep (s.drop e)
    have a2 := length_takeWhile_add_dropWhile notSep ((s.drop e).dropWhile isSep)
    have : ¬ s.length ≤ e := fun hh => h (List.drop_eq_nil_iff.2 hh)
    rw [List.length_drop] at a1
    omega

theorem frames_end (s : List Nat) (fuel : Nat) (r : Range) : frames s fuel ⟨r, .end_⟩ = [] := by
  cases fuel <;> simp [frames]

/-- Induction along the positions the iterator visits from `e` on, for a function that carries fuel.
Fuel for the remaining text is enough; the model's constants (`length + 2`, `+ 4`) exceed it. -/
theorem frameAfter_induct (s : List Nat) (h0 : 0 ∉ s) {P : Nat → Nat → Prop}
    (nil : ∀ fuel e, s.drop e = [] → P fuel e)
    (cons : ∀ fuel e, s.drop e ≠ [] → P fuel (frameAfter s e).range.2 → P (fuel + 1) e) :
    ∀ fuel e, s.length - e ≤ fuel → P fuel e := by
  intro fuel
  induction fuel with
  | zero => intro e h; exact nil 0 e (List.drop_eq_nil_iff.2 (by omega))
  | succ fuel ih =>
    intro e h
    by_cases hs : s.drop e = []
    · exact nil _ e hs
    · exact cons fuel e hs (ih _ (by have := (frameAfter_step s h0 e hs).lt; omega))

theorem frames_frameAfter_rec (s : List Nat) (h0 : 0 ∉ s) {P : Nat → List PathIter → Prop}
    (nil : ∀ e, s.drop e = [] → P e [])
    (cons : ∀ e fs, s.drop e ≠ [] → P (frameAfter s e).range.2 fs → P e (frameAfter s e :: fs)) :
    ∀ fuel e, s.length - e ≤ fuel → P e (frames s fuel (frameAfter s e)) :=
  frameAfter_induct s h0
    (fun fuel e hs => by rw [frameAfter_nil s h0 e hs, frames_end]; exact nil e hs)
    (fun fuel e hs ih => by
      have hst := (frameAfter_step s h0 e hs).state
      rw [frames, if_neg (by rw [hst]; simp), next_of_fileName s _ hst]
      exact cons e _ hs ih)

theorem frames_frameAfter (s : List Nat) (h0 : 0 ∉ s) (f : PathIter → List Nat)
    (hf : ∀ x, x.state = .fileName → f x = rangeText s x) (fuel e : Nat) (h : s.length - e ≤ fuel) :
    (frames s fuel (frameAfter s e)).map f = elemsFrom (s.drop e) :=
  frames_frameAfter_rec s h0 (P := fun e fs => fs.map f = elemsFrom (s.drop e))
    (fun e h => by rw [h]; rfl)
    (fun e fs hs ih => by
      have g := frameAfter_step s h0 e hs
      rw [List.map_cons, ih, hf _ g.state, g.elems]) fuel e h

theorem parse_root (s : List Nat) : (parse s).root = isSep (at' s 0) := by
  simp [parse, at'_eq_headD]

theorem noroot_dropWhile (l : List Nat) : isSep ((l.dropWhile isSep).headD 0) = false := by
  have := List.head?_dropWhile_not isSep l
  cases h : l.dropWhile isSep with
  | nil => exact isSep_zero
  | cons c t => rw [h] at this; exact this

theorem dropWhile_noroot (s : List Nat) (h : isSep (s.headD 0) = false) : s.dropWhile isSep = s :=
  (takeWhile_seps 0 s h).2

theorem parse_names (s : List Nat) : (parse s).names = elemsFrom (s.dropWhile isSep) := by
  show splitNames _ = _
  unfold splitNames elemsFrom spl
  rw [dropWhile_noroot _ (noroot_dropWhile s)]

theorem parse_names_noroot (s : List Nat) (h : isSep (at' s 0) = false) :
    (parse s).names = elemsFrom s := by
  rw [parse_names, dropWhile_noroot s (at'_eq_headD s 0 ▸ h)]

theorem drop_skipSeps_one (s : List Nat) (h : isSep (at' s 0) = true) :
    s.drop (skipSeps s (s.length + 1) 1) = s.dropWhile isSep := by
  rw [skipSeps_eq s]
  rw [at'_eq_headD] at h
  cases s with
  | nil => simp [isSep_zero] at h
  | cons c t =>
    simp at h
    simp only [List.drop_succ_cons, List.drop_zero, List.dropWhile_cons, h, if_true]
    rw [Nat.add_comm, List.drop_succ_cons, drop_takeWhile_length]

theorem allFrames_eq (s : List Nat) : ∃ fuel e, s.length - e ≤ fuel ∧ s.drop e = s.dropWhile isSep ∧
    allFrames s =
      (if isSep (at' s 0) = true then [⟨(0, 1), .rootDir⟩] else []) ++
        frames s fuel (frameAfter s e) := by
  by_cases hr : isSep (at' s 0) = true
  · refine ⟨s.length + 1, _, fuel_ok .., drop_skipSeps_one s hr, ?_⟩
    rw [if_pos hr, allFrames, begin_root s hr, frames, if_neg nofun, next_rootDir,
      List.singleton_append]
  · have hr' := Bool.not_eq_true _ ▸ hr
    refine ⟨s.length + 2, 0, Nat.le_add_right ..,
      (dropWhile_noroot s (at'_eq_headD s 0 ▸ hr')).symm, ?_⟩
    rw [if_neg hr, allFrames, begin_noroot s hr', List.nil_append]

theorem allFrames_map (s : List Nat) (h0 : 0 ∉ s) :
    (allFrames s).map (fun f => if f.state = .rootDir then [sep] else slice s f.range) =
      (parse s).elems := by
  obtain ⟨fuel, e, hfuel, hd, heq⟩ := allFrames_eq s
  rw [heq, List.map_append,
    frames_frameAfter s h0 _ (fun x hx => by simp [hx, rangeText]) _ _ hfuel, hd, P.elems,
    parse_root, parse_names]
  cases isSep (at' s 0) <;> rfl

theorem mismatch_nil_left (bs : List (List Nat)) : mismatch [] bs = ([], bs) := by
  simp [mismatch]

theorem mismatch_nil_right (as : List (List Nat)) : mismatch as [] = (as, []) := by
  cases as <;> simp [mismatch]

theorem mismatch_cons_eq (a : List Nat) (as bs : List (List Nat)) :
    mismatch (a :: as) (a :: bs) = mismatch as bs := by
  rw [mismatch, if_pos rfl]

theorem mismatch_cons_ne (a b : List Nat) (as bs : List (List Nat)) (h : a ≠ b) :
    mismatch (a :: as) (b :: bs) = (a :: as, b :: bs) := by
  rw [mismatch, if_neg h]

theorem skipCommon_frameAfter (p b : List Nat) (hp : 0 ∉ p) (hb : 0 ∉ b) (fuel e d : Nat)
    (h : p.length - e ≤ fuel) :
    ∃ e' d',
      skipCommon p b fuel (frameAfter p e) (frameAfter b d) = (frameAfter p e', frameAfter b d') ∧
      mismatch (elemsFrom (p.drop e)) (elemsFrom (b.drop d)) =
        (elemsFrom (p.drop e'), elemsFrom (b.drop d')) :=
  frameAfter_induct p hp (P := fun fuel e => ∀ d, ∃ e' d',
      skipCommon p b fuel (frameAfter p e) (frameAfter b d) = (frameAfter p e', frameAfter b d') ∧
      mismatch (elemsFrom (p.drop e)) (elemsFrom (b.drop d)) =
        (elemsFrom (p.drop e'), elemsFrom (b.drop d')))
    (fun fuel e hpe d =>
      ⟨e, d, by rw [frameAfter_nil p hp e hpe]; cases fuel <;> simp [skipCommon],
        by rw [hpe, elemsFrom_nil, mismatch_nil_left]⟩)
    (fun fuel e hpe ih d => by
      by_cases hbd : b.drop d = []
      · exact ⟨e, d, by rw [skipCommon, frameAfter_nil b hb d hbd]; simp,
          by rw [hbd, elemsFrom_nil, mismatch_nil_right]⟩
      · have x := frameAfter_step p hp e hpe
        have y := frameAfter_step b hb d hbd
        by_cases ht : rangeText p (frameAfter p e) = rangeText b (frameAfter b d)
        · obtain ⟨e', d', h1, h2⟩ := ih (frameAfter b d).range.2
          refine ⟨e', d', ?_, ?_⟩
          · rw [skipCommon,
              if_pos ⟨by rw [x.state]; simp, by rw [y.state]; simp, by rw [x.state, y.state], ht⟩,
              next_of_fileName p _ x.state, next_of_fileName b _ y.state, h1]
          · rw [x.elems, y.elems, ht, mismatch_cons_eq, h2]
        · exact ⟨e, d, by rw [skipCommon, if_neg (by simp [ht])],
            by rw [x.elems, y.elems, mismatch_cons_ne _ _ _ _ ht]⟩)
    fuel e h d

theorem slice_leading_sep (s : List Nat) (h : isSep (at' s 0) = true) : slice s (0, 1) = [sep] := by
  rw [at'_eq_headD] at h
  cases s with
  | nil => simp [isSep_zero] at h
  | cons c t =>
    simp [isSep] at h
    simp [slice, h]

theorem skipCommon_begin (p b : List Nat) (hp : 0 ∉ p) (hb : 0 ∉ b)
    (hroot : isSep (at' p 0) = isSep (at' b 0)) :
    ∃ e' d',
      skipCommon p b (p.length + b.length + 4) (begin p) (begin b) =
        (frameAfter p e', frameAfter b d') ∧
      mismatch (parse p).elems (parse b).elems =
        (elemsFrom (p.drop e'), elemsFrom (b.drop d')) := by
  cases hr : isSep (at' p 0) with
  | false =>
    have hr' : isSep (at' b 0) = false := by rw [← hroot]; exact hr
    obtain ⟨e', d', h1, h2⟩ :=
      skipCommon_frameAfter p b hp hb (p.length + b.length + 4) 0 0 (by omega)
    refine ⟨e', d', ?_, ?_⟩
    · rw [begin_noroot p hr, begin_noroot b hr', h1]
    · simp only [P.elems, parse_root, hr, hr', parse_names_noroot p hr, parse_names_noroot b hr']
      simpa using h2
  | true =>
    have hr' : isSep (at' b 0) = true := by rw [← hroot]; exact hr
    -- one unit of fuel went into the step over the two root directories
    obtain ⟨e', d', h1, h2⟩ := skipCommon_frameAfter p b hp hb (p.length + b.length + 3)
      (skipSeps p (p.length + 1) 1) (skipSeps b (b.length + 1) 1) (by omega)
    refine ⟨e', d', ?_, ?_⟩
    · rw [begin_root p hr, begin_root b hr', skipCommon,
        if_pos ⟨by simp, by simp, rfl,
          by simp [rangeText, slice_leading_sep p hr, slice_leading_sep b hr']⟩,
        next_rootDir, next_rootDir, h1]
    · simp only [P.elems, parse_root, hr, hr', parse_names, if_true, List.singleton_append,
        mismatch_cons_eq]
      rw [drop_skipSeps_one p hr, drop_skipSeps_one b hr'] at h2
      exact h2

/-- The dot-dots among the remaining elements of base, as `PathSpec.relative` counts them. -/
def upCount (rb : List (List Nat)) : Nat := (rb.filter (· = [dot, dot])).length

def nameCount (rb : List (List Nat)) : Nat :=
  (rb.filter (fun e => e ≠ [dot, dot] ∧ e ≠ [dot] ∧ e ≠ [])).length

theorem upCount_cons (t : List Nat) (r : List (List Nat)) :
    upCount (t :: r) = upCount [t] + upCount r := by
  unfold upCount
  rw [← List.length_append, ← List.filter_append]
  rfl

theorem nameCount_cons (t : List Nat) (r : List (List Nat)) :
    nameCount (t :: r) = nameCount [t] + nameCount r := by
  unfold nameCount
  rw [← List.length_append, ← List.filter_append]
  rfl

/-- One element of base, counted as the loop of `countBase` counts it. -/
theorem countBase_elem (t : List Nat) (up names : Nat) :
    (if t = [] then (up, names) else if t = [dot, dot] then (up + 1, names)
      else if t = [dot] then (up, names) else (up, names + 1)) =
      (up + upCount [t], names + nameCount [t]) := by
  by_cases h1 : t = []
  · subst h1; rfl
  · by_cases h2 : t = [dot, dot]
    · subst h2; rfl
    · by_cases h3 : t = [dot]
      · subst h3; rfl
      · simp [upCount, nameCount, h1, h2, h3]

theorem countBase_frameAfter (b : List Nat) (hb : 0 ∉ b) (fuel d up names : Nat)
    (h : b.length - d ≤ fuel) :
    countBase b fuel (frameAfter b d) (up, names) =
      (up + upCount (elemsFrom (b.drop d)), names + nameCount (elemsFrom (b.drop d))) :=
  frameAfter_induct b hb
    (P := fun fuel d => ∀ up names, countBase b fuel (frameAfter b d) (up, names) =
      (up + upCount (elemsFrom (b.drop d)), names + nameCount (elemsFrom (b.drop d))))
    (fun fuel d hbd up names => by rw [frameAfter_nil b hb d hbd, hbd]; cases fuel <;> rfl)
    (fun fuel d hbd ih up names => by
      have y := frameAfter_step b hb d hbd
      rw [countBase, if_neg (by rw [y.state]; simp), next_of_fileName b _ y.state, y.elems]
      dsimp only
      rw [countBase_elem, ih, upCount_cons _ (elemsFrom _), nameCount_cons _ (elemsFrom _),
        Nat.add_assoc, Nat.add_assoc])
    fuel d h up names

def upsText (up : Nat) : List Nat :=
  (List.replicate up [dot, dot]).foldl (fun acc u => if acc = [] then u else acc ++ [sep] ++ u) []

/-- The text `zix_path_lexically_relative` writes for a plan (see `relPlan`): "." or the dot-dots, a
separator and the rest of `p`. -/
def render (p : List Nat) : Option (PathIter × Nat) → List Nat
  | none => [dot]
  | some (x, up) =>
    if x.range.1 < p.length then
      if upsText up = [] then p.drop x.range.1 else upsText up ++ [sep] ++ p.drop x.range.1
    else if up > 0 ∧ x.state ≠ .end_ then upsText up ++ [p.getLastD 0]
    else upsText up

/-- What is decided behind the common prefix, the rest of base counted (`c` = dot-dots, names):
`none` is NULL, `some none` the answer ".", `some (some (x, up))` is `up` dot-dot elements followed
by the path from `x` on. -/
def planTail (x y : PathIter) (c : Nat × Nat) : Option (Option (PathIter × Nat)) :=
  if (x.state = .end_ ∧ y.state = .end_) ∨ (x.range.isEmpty ∧ y.state = .end_) then some none
  else if c.1 > c.2 then none
  else
    let up := if x.state = .rootDir then 0 else c.2 - c.1
    if up = 0 ∧ (x.state = .end_ ∨ x.range.isEmpty) then some none else some (some (x, up))

/-- Everything `zix_path_lexically_relative(p, b)` decides before it writes. -/
def relPlan (p b : List Nat) : Option (Option (PathIter × Nat)) :=
  if isAbsolute p ≠ isAbsolute b ∨ ((!(!(rootDirRange p).isEmpty)) ∧ (!(rootDirRange b).isEmpty))
  then none
  else
    let xy := skipCommon p b (p.length + b.length + 4) (begin p) (begin b)
    planTail xy.1 xy.2 (countBase b (b.length + 2) xy.2 (0, 0))

/-- `PathSpec.relative` behind the comparison of the roots, as a function of the two remainders that
`mismatch` leaves. -/
def specTail (ra rb : List (List Nat)) : Option (List (List Nat)) :=
  if ra = [] ∧ rb = [] then some [[dot]]
  else
    if nameCount rb < upCount rb then none
    else
      if nameCount rb - upCount rb = 0 ∧ (ra = [] ∨ ra.head? = some []) then some [[dot]]
      else some (List.replicate (nameCount rb - upCount rb) [dot, dot] ++ ra)

/-- The scans are put into variables first: unfolding `relative` with `skipCommon …` in place makes
the comparison of the two sides evaluate the iterator. -/
theorem relative_eq_plan (p b : List Nat) : relative p b = (relPlan p b).map (render p) := by
  unfold relative relPlan planTail
  generalize skipCommon p b (p.length + b.length + 4) (begin p) (begin b) = xy
  obtain ⟨x, y⟩ := xy
  generalize countBase b (b.length + 2) y (0, 0) = c
  obtain ⟨u, n⟩ := c
  simp only [apply_ite (Option.map (render p)), Option.map_none, Option.map_some, render, upsText]
  simp only [← apply_ite some]
  rfl

theorem spec_relative_eq (p b : List Nat) : PathSpec.relative p b =
    if (parse p).root ≠ (parse b).root then none
    else specTail (mismatch (parse p).elems (parse b).elems).1
      (mismatch (parse p).elems (parse b).elems).2 := rfl

theorem foldl_ups (n : Nat) (A : List Nat) :
    (List.replicate n [dot, dot]).foldl (fun acc u => if acc = [] then u else acc ++ [sep] ++ u)
        (A ++ [dot, dot]) =
      A ++ flat (List.replicate n ([dot, dot], 0)) ++ [dot, dot] := by
  induction n generalizing A with
  | zero => simp [flat]
  | succ n ih =>
    rw [List.replicate_succ, List.foldl_cons, if_neg (by simp), ih, List.replicate_succ, flat]
    simp

theorem upsText_zero : upsText 0 = [] := rfl

theorem upsText_succ (n : Nat) :
    upsText (n + 1) = flat (List.replicate n ([dot, dot], 0)) ++ [dot, dot] := by
  unfold upsText
  rw [List.replicate_succ, List.foldl_cons, if_pos rfl]
  exact foldl_ups n []

theorem upsText_succ_sep (n : Nat) :
    upsText (n + 1) ++ [sep] = flat (List.replicate (n + 1) ([dot, dot], 0)) := by
  rw [upsText_succ, List.replicate_succ', flat_snoc]; rfl

theorem name_dd {n : Nat} :
    ∀ e ∈ List.replicate n (([dot, dot] : List Nat), 0), Name e.1 := fun e he => by
  rw [(List.mem_replicate.1 he).2]; exact ⟨by simp, by decide⟩

theorem parse_elems_noroot (s : List Nat) (h : isSep (s.headD 0) = false) (hs : s ≠ []) :
    (parse s).elems = spl s := by
  have h' : isSep (at' s 0) = false := by rw [at'_eq_headD]; exact h
  unfold P.elems
  rw [parse_root, h', parse_names_noroot s h', elemsFrom, if_neg hs, dropWhile_noroot s h]
  simp

theorem parse_elems_flat (es : List (List Nat × Nat)) (T : List Nat) (hes : ∀ e ∈ es, Name e.1)
    (hT : isSep (T.headD 0) = false) (hne : flat es ++ T ≠ []) :
    (parse (flat es ++ T)).elems = es.map (·.1) ++ spl T := by
  have h := isSep_headD_flat es T hes hT
  rw [parse_elems_noroot _ h hne, spl_flat_append es T hes hT]

/-- The tests `planTail` makes on an iterator, said of the C++17 elements that remain. -/
theorem frameAfter_tests (s : List Nat) (h0 : 0 ∉ s) (e : Nat) :
    (frameAfter s e).state ≠ .rootDir ∧
    ((frameAfter s e).state = .end_ ↔ elemsFrom (s.drop e) = []) ∧
    ((frameAfter s e).range.isEmpty = true ↔
      (elemsFrom (s.drop e) = [] ∨ (elemsFrom (s.drop e)).head? = some [])) := by
  by_cases hs : s.drop e = []
  · rw [frameAfter_nil s h0 e hs, hs, elemsFrom_nil]
    simp [Range.isEmpty]
  · have g := frameAfter_step s h0 e hs
    have hr := g.width
    rw [g.elems, g.state]
    refine ⟨by simp, by simp, ?_⟩
    unfold Range.isEmpty
    rw [hr]
    simp only [List.cons_ne_nil, false_or, List.head?_cons, Option.some.injEq]
    rw [beq_iff_eq]
    constructor
    · intro h; exact List.eq_nil_of_length_eq_zero (by omega)
    · intro h
      rw [h]
      rfl

theorem parse_dot : (parse [dot]).elems = [[dot]] := by decide

/-- `hne` leaves out the case in which `planTail` answers "." instead. -/
theorem parse_render (p : List Nat) (hp : 0 ∉ p) (e n : Nat)
    (hne : ¬ (n = 0 ∧ (elemsFrom (p.drop e) = [] ∨ (elemsFrom (p.drop e)).head? = some []))) :
    (parse (render p (some (frameAfter p e, n)))).elems =
      List.replicate n [dot, dot] ++ elemsFrom (p.drop e) := by
  unfold render
  dsimp only
  by_cases hpe : p.drop e = []
  · -- nothing left of `p`: the dot-dots alone
    have hlen : p.length ≤ e := List.drop_eq_nil_iff.1 hpe
    rw [hpe, elemsFrom_nil] at hne
    rw [frameAfter_nil p hp e hpe, hpe, elemsFrom_nil, if_neg (by simp; omega), if_neg (by simp)]
    cases n with
    | zero => exact absurd ⟨rfl, Or.inl rfl⟩ hne
    | succ m =>
      rw [upsText_succ, parse_elems_flat _ _ name_dd (by decide) (by simp), spl_name _ (by decide),
        List.map_replicate, List.append_nil, List.replicate_succ']
  · have hst := (frameAfter_step p hp e hpe).state
    have hdrop := (frameAfter_step p hp e hpe).start
    have hra : elemsFrom (p.drop e) = spl ((p.drop e).dropWhile isSep) := by
      unfold elemsFrom; rw [if_neg hpe]
    have hnr := noroot_dropWhile (p.drop e)
    rw [hdrop, hst]
    by_cases hr : (p.drop e).dropWhile isSep = []
    · -- only separators left: the dot-dots and the last byte of `p`, a separator
      have hge : ¬ (frameAfter p e).range.1 < p.length := by
        rw [hr, List.drop_eq_nil_iff] at hdrop; omega
      rw [hr] at hra
      rw [if_neg hge]
      cases n with
      | zero => exact absurd ⟨rfl, Or.inr (by rw [hra]; rfl)⟩ hne
      | succ m =>
        have hlast : p.getLastD 0 = sep := by
          have h2 : (p.drop e).getLast? = p.getLast? := by
            rw [List.getLast?_drop, if_neg (fun hh => hpe (List.drop_eq_nil_iff.2 hh))]
          cases hl : p.getLast? with
          | none => rw [hl, List.getLast?_eq_none_iff] at h2; exact absurd h2 hpe
          | some c =>
            rw [List.getLastD_eq_getLast?, hl]
            exact (isSep_iff c).1
              (dropWhile_nil_all isSep _ hr c (List.mem_of_getLast? (h2.trans hl)))
        have := parse_elems_flat (List.replicate (m + 1) ([dot, dot], 0)) [] name_dd isSep_zero
          (by simp [List.replicate_succ, flat])
        rw [List.append_nil] at this
        rw [if_pos ⟨by omega, by simp⟩, hlast, upsText_succ_sep, this, hra, List.map_replicate]
    · have hlt : (frameAfter p e).range.1 < p.length :=
        Nat.lt_of_not_le fun hh => hr (by rw [← hdrop]; exact List.drop_eq_nil_iff.2 hh)
      rw [if_pos hlt, hra]
      cases n with
      | zero => rw [upsText_zero, if_pos rfl]; exact parse_elems_flat [] _ (by simp) hnr hr
      | succ m =>
        rw [if_neg (by rw [upsText_succ]; simp), upsText_succ_sep,
          parse_elems_flat _ _ name_dd hnr (by simp [List.replicate_succ, flat]),
          List.map_replicate]

theorem planTail_eq_specTail (p b : List Nat) (hp : 0 ∉ p) (hb : 0 ∉ b) (e d : Nat) :
    (planTail (frameAfter p e) (frameAfter b d)
          (countBase b (b.length + 2) (frameAfter b d) (0, 0))).map
        (fun o => (parse (render p o)).elems) =
      specTail (elemsFrom (p.drop e)) (elemsFrom (b.drop d)) := by
  obtain ⟨hxr, hxe, hxi⟩ := frameAfter_tests p hp e
  obtain ⟨_, hye, _⟩ := frameAfter_tests b hb d
  have hc := countBase_frameAfter b hb (b.length + 2) d 0 0 (by omega)
  simp only [Nat.zero_add] at hc
  have hasm := parse_render p hp e
  have hdot : (parse (render p none)).elems = [[dot]] := parse_dot
  unfold planTail specTail
  simp only [hc, if_neg hxr, hxe, hxi, hye]
  generalize elemsFrom (p.drop e) = ra at *
  generalize elemsFrom (b.drop d) = rb at *
  by_cases hrb : rb = []
  · subst hrb
    simp only [show upCount [] = 0 from rfl, show nameCount [] = 0 from rfl, and_true,
      Nat.lt_irrefl, if_false, Nat.sub_self, true_and, gt_iff_lt]
    by_cases hcnd : ra = [] ∨ ra.head? = some []
    · simp only [hcnd, or_true, if_true, Option.map_some, hdot, ite_self]
    · have h1 : ¬ (ra = [] ∨ ra = [] ∨ ra.head? = some []) := fun h => hcnd (h.elim Or.inl id)
      rw [if_neg (fun h => hcnd (h.elim Or.inl id)), if_neg h1, if_neg (fun h => hcnd (Or.inl h)),
        if_neg hcnd, Option.map_some, hasm _ (fun h => hcnd h.2)]
  · simp only [hrb, and_false, or_self, if_false, gt_iff_lt]
    by_cases hlt : nameCount rb < upCount rb
    · rw [if_pos hlt, if_pos hlt]; rfl
    · rw [if_neg hlt, if_neg hlt]
      by_cases hz : nameCount rb - upCount rb = 0 ∧ (ra = [] ∨ ra.head? = some [])
      · rw [if_pos ⟨hz.1, Or.inr hz.2⟩, if_pos hz, Option.map_some, hdot]
      · rw [if_neg (fun h => hz ⟨h.1, h.2.elim Or.inl id⟩), if_neg hz, Option.map_some, hasm _ hz]

theorem parse_relative (p b : List Nat) (hp : 0 ∉ p) (hb : 0 ∉ b) :
    (Zix.Path.relative p b).map (fun r => (parse r).elems) = PathSpec.relative p b := by
  rw [relative_eq_plan, Option.map_map, spec_relative_eq]
  unfold relPlan
  simp only [rootDir_nonempty, isAbsolute, parse_root]
  by_cases hroot : isSep (at' p 0) = isSep (at' b 0)
  · obtain ⟨e', d', h1, h2⟩ := skipCommon_begin p b hp hb hroot
    have hcond : ¬ (isSep (at' p 0) ≠ isSep (at' b 0) ∨
        ((!isSep (at' p 0)) = true ∧ isSep (at' b 0) = true)) := by
      rw [hroot]; simp
    rw [if_neg hcond, if_neg (by simpa using hroot), h1, h2]
    exact planTail_eq_specTail p b hp hb e' d'
  · rw [if_pos (Or.inl hroot), if_pos hroot]; rfl

end Zix.Path.Rel

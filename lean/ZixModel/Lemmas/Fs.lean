import ZixModel.Model.Fs
import ZixModel.Lemmas.PathScan
/-! The model's `resolve`, `statKind`, `mkdir` are read as functions of the path's components
(`resolveC` …, equal by `rfl`), and `comps` through an accumulator form with equations of its own
(`compsAcc`).  The node table is generic in the kind of a node (`lk`, `TableOK`), so that the tree
with symbolic links uses the same lemmas. -/
namespace Zix.Fs
open Zix.Path Zix.PathSpec Zix.Path.Scan

/-- The page loop decides equality when it has fuel for one round more than `a` has bytes (that
round reads the end of `a`; at fuel 0 the model answers `true`).  `fileEqualsSized` passes
`length + 1`. -/
theorem pagesEqual_eq (p : Nat) (hp : 0 < p) : ∀ fuel (a b : List Nat),
    a.length < fuel → pagesEqual p fuel a b = decide (a = b) := by
  have hnil : ∀ l : List Nat, l.take p = [] ↔ l = [] := fun l => by
    rw [List.take_eq_nil_iff]; exact ⟨fun h => h.resolve_left (by omega), Or.inr⟩
  intro fuel a b hf
  fun_induction pagesEqual p fuel a b with
  | case1 => omega
  | case2 fuel a b ca ha =>
    -- `read(a)` returns 0: equal exactly when `b` has ended too
    cases (hnil a).1 ha
    exact Bool.eq_iff_iff.2 (by rw [List.isEmpty_iff, hnil, decide_eq_true_iff, eq_comm])
  | case3 fuel a b ca ha cb hne =>
    exact (decide_eq_false fun h => by subst h; exact hne.elim (· rfl) (· rfl)).symm
  | case4 fuel a b ca ha cb hne ih =>
    have hne : a.take p = b.take p := Classical.not_not.1 fun h => hne (Or.inr h)
    have hpos := List.length_pos_iff.2 (mt (hnil a).2 ha)
    rw [ih (by rw [List.length_drop]; omega)]
    exact decide_eq_decide.2
      ⟨fun h => by rw [← List.take_append_drop p a, ← List.take_append_drop p b, hne, h],
        fun h => by rw [h]⟩

/-- the name being read, as a component if it is not empty -/
def flush (cur : List Nat) : List (List Nat) := if cur = [] then [] else [cur]

/-- non-empty components of `r`, with `cur` the name being read -/
def compsAcc : List Nat → List Nat → List (List Nat)
  | cur, [] => flush cur
  | cur, c :: r => if isSep c then flush cur ++ compsAcc [] r else compsAcc (cur ++ [c]) r

theorem compsAcc_append_sep (pre : List Nat) {a : Nat} (ha : isSep a = true) (T : List Nat) : ∀ cur,
    compsAcc cur (pre ++ a :: T) = compsAcc cur pre ++ compsAcc [] T := by
  intro cur
  fun_induction compsAcc cur pre <;>
    simp only [List.nil_append, List.cons_append, compsAcc, *, if_true, Bool.false_eq_true,
      if_false, List.append_assoc]

theorem compsAcc_dropWhile (r : List Nat) : compsAcc [] (r.dropWhile isSep) = compsAcc [] r := by
  fun_induction List.dropWhile isSep r with
  | case1 => rfl
  | case2 c r hc ih =>
    rw [ih]
    simp [compsAcc, hc, flush]
  | case3 => rfl

theorem splitAux_filter : ∀ fuel r cur, r.length ≤ fuel →
    (splitAux fuel r cur).filter (· ≠ []) = compsAcc cur.reverse r := by
  intro fuel r cur h
  fun_induction splitAux fuel r cur with
  | case1 r cur =>  -- no fuel: no text either
    cases List.eq_nil_of_length_eq_zero (Nat.le_zero.1 h)
    simp [compsAcc, flush, List.filter_cons]
  | case2 => simp [compsAcc, flush, List.filter_cons]
  | case3 fuel c rest cur hc ih =>
    -- a separator: the name ends, the separators behind it are skipped
    have := length_dropWhile_le isSep rest
    simp only [List.length_cons] at h
    rw [List.filter_cons, ih (by omega), List.reverse_nil, compsAcc_dropWhile, compsAcc, if_pos hc]
    unfold flush; split <;> simp_all
  | case4 fuel c rest cur hc ih =>
    simp only [List.length_cons] at h
    rw [ih (by omega), compsAcc, if_neg hc]
    simp

theorem comps_eq_compsAcc (s : List Nat) : comps s = compsAcc [] s := by
  unfold comps splitNames
  rw [← compsAcc_dropWhile s]
  split
  · rename_i h
    rw [h]; rfl
  · rw [splitAux_filter _ _ _ (by omega)]; rfl

theorem mem_flush {c cur : List Nat} : c ∈ flush cur ↔ cur ≠ [] ∧ c = cur := by
  unfold flush; split <;> simp_all

theorem compsAcc_mem (r : List Nat) : ∀ cur, (∀ x ∈ cur, isSep x = false) → ∀ c ∈ compsAcc cur r,
    c ≠ [] ∧ ∀ x ∈ c, x ∈ cur ++ r ∧ isSep x = false := by
  intro cur
  fun_induction compsAcc cur r with
  | case1 cur =>
    intro hcur c hc
    obtain ⟨h1, rfl⟩ := mem_flush.1 hc
    exact ⟨h1, fun x hx => ⟨by simpa using hx, hcur x hx⟩⟩
  | case2 cur a r ha ih =>  -- a separator: `c` is the name just read or comes later
    intro hcur c hc
    rcases List.mem_append.1 hc with hc | hc
    · obtain ⟨h1, rfl⟩ := mem_flush.1 hc
      exact ⟨h1, fun x hx => ⟨List.mem_append_left _ hx, hcur x hx⟩⟩
    · obtain ⟨h1, h2⟩ := ih (fun _ h => nomatch h) c hc
      exact ⟨h1, fun x hx =>
        ⟨List.mem_append_right _ (List.mem_cons_of_mem _ (h2 x hx).1), (h2 x hx).2⟩⟩
  | case3 cur a r ha ih =>
    intro hcur c hc
    obtain ⟨h1, h2⟩ := ih (fun x hx => (List.mem_append.1 hx).elim (hcur x)
      fun hx => by cases List.mem_singleton.1 hx; simpa using ha) c hc
    exact ⟨h1, fun x hx => ⟨by simpa using (h2 x hx).1, (h2 x hx).2⟩⟩

theorem comps_mem (s : List Nat) (c : List Nat) (hc : c ∈ comps s) :
    c ≠ [] ∧ sep ∉ c ∧ (0 ∉ s → 0 ∉ c) := by
  rw [comps_eq_compsAcc] at hc
  obtain ⟨h1, h2⟩ := compsAcc_mem s [] nofun c hc
  exact ⟨h1, fun h => by simpa [isSep] using (h2 _ h).2, fun h0 h => h0 (h2 _ h).1⟩

theorem comps_seps (s : List Nat) (h : ∀ c ∈ s, isSep c = true) : comps s = [] := by
  have := List.dropWhile_append_of_pos (l₂ := []) h
  rw [List.append_nil] at this
  unfold comps
  rw [this]
  rfl

theorem comps_take_prefix (s : List Nat) (k : Nat) (hk : k ≤ s.length)
    (hb : k = s.length ∨ isSep (s.getD k 0) = true ∨ isSep (s.getD (k - 1) 0) = true)
    (hk0 : 0 < k) :
    ∃ rest, comps s = comps (s.take k) ++ rest := by
  rw [comps_eq_compsAcc, comps_eq_compsAcc]
  rcases hb with hb | hb | hb
  · exact ⟨[], by rw [hb, List.take_length, List.append_nil]⟩
  · have hlt : k < s.length := Classical.byContradiction fun hn => by
      rw [List.getD_eq_getElem?_getD, List.getElem?_eq_none (by omega)] at hb
      simp [isSep, sep] at hb
    rw [List.getD_eq_getElem?_getD, List.getElem?_eq_getElem hlt, Option.getD_some] at hb
    refine ⟨compsAcc [] (s.drop (k + 1)), ?_⟩
    conv => lhs; rw [← List.take_append_drop k s, List.drop_eq_getElem_cons hlt]
    exact compsAcc_append_sep _ hb _ _
  · -- cut behind a separator: it closes the last component of the prefix
    have hlt : k - 1 < s.length := by omega
    rw [List.getD_eq_getElem?_getD, List.getElem?_eq_getElem hlt, Option.getD_some] at hb
    have hpre : s.take k = s.take (k - 1) ++ [s[k - 1]] := by
      have := List.take_succ_eq_append_getElem hlt
      rwa [show k - 1 + 1 = k by omega] at this
    refine ⟨compsAcc [] (s.drop k), ?_⟩
    conv => lhs; rw [← List.take_append_drop k s]
    rw [hpre, List.append_assoc, List.singleton_append, compsAcc_append_sep _ hb,
      compsAcc_append_sep _ hb, show compsAcc [] [] = [] from rfl, List.append_nil]

/-! `rstep`, `startOf`, `resolveC`, `statKindC`, `mkdirC`: the fold over the components that
`resolve` and `mkdir` of `Model/Fs.lean` each write out, written once, as functions of the
components (`resolve_eq`, `statKind_eq`, `mkdir_eq`, by `rfl`).  `abs`: the string starts with a
separator, so resolution starts at the root. -/

def rstep (t : Tree) (acc : Option (List (List Nat))) (c : List Nat) : Option (List (List Nat)) :=
  match acc with
  | none => none
  | some cur =>
    if t.kindOf cur ≠ some .dir then none
    else if c = [dot] then some cur
    else if c = [dot, dot] then some cur.dropLast
    else some (cur ++ [c])

def startOf (t : Tree) (abs : Bool) : List (List Nat) := if abs then [] else t.cwd

def resolveC (t : Tree) (abs : Bool) (cs : List (List Nat)) : Option (List (List Nat)) :=
  cs.foldl (rstep t) (some (startOf t abs))

def statKindC (t : Tree) (abs : Bool) (cs : List (List Nat)) : Option Kind :=
  match resolveC t abs cs with
  | some p => t.kindOf p
  | none => none

def addDir (t : Tree) (p : List (List Nat)) : Tree := { t with nodes := t.nodes ++ [(p, .dir)] }

def mkdirC (t : Tree) (abs : Bool) (cs : List (List Nat)) : Tree × Option Int :=
  match cs.getLast? with
  | none => (t, some 17)
  | some last =>
    match resolveC t abs cs.dropLast with
    | none => (t, some 2)
    | some par =>
      if t.kindOf par = none then (t, some 2)
      else if t.kindOf par ≠ some .dir then (t, some 20)
      else if last = [dot] ∨ last = [dot, dot] then (t, some 17)
      else if (t.kindOf (par ++ [last])).isSome then (t, some 17)
      else (addDir t (par ++ [last]), none)

theorem resolve_eq (t : Tree) (s : List Nat) : resolve t s = resolveC t (isSep (s.headD 0)) (comps s) := rfl

theorem statKind_eq (t : Tree) (s : List Nat) :
    statKind t s = statKindC t (isSep (s.headD 0)) (comps s) := rfl

theorem mkdir_eq (t : Tree) (s : List Nat) :
    mkdir t s = mkdirC t (isSep (s.headD 0)) (comps s) := rfl

theorem foldl_rstep_none (t : Tree) (cs : List (List Nat)) : cs.foldl (rstep t) none = none := by
  induction cs with
  | nil => rfl
  | cons c cs ih => exact ih

/-- A step is taken only from a directory: the fold that gets past a component started at one. -/
theorem foldl_rstep_cons_some {t : Tree} {acc : Option (List (List Nat))} {c : List Nat}
    {cs d : List (List Nat)} (h : (c :: cs).foldl (rstep t) acc = some d) :
    ∃ p, acc = some p ∧ t.kindOf p = some .dir := by
  cases acc with
  | none =>
    rw [foldl_rstep_none] at h
    cases h
  | some p =>
    refine ⟨p, rfl, Classical.byContradiction fun hk => ?_⟩
    rw [List.foldl_cons, show rstep t (some p) c = none by simp [rstep, hk], foldl_rstep_none] at h
    cases h

theorem resolveC_snoc (t : Tree) (abs : Bool) (cs : List (List Nat)) (c : List Nat) :
    resolveC t abs (cs ++ [c]) = rstep t (resolveC t abs cs) c := by
  simp [resolveC, List.foldl_append]

theorem statKindC_dir_iff (t : Tree) (abs : Bool) (cs : List (List Nat)) :
    statKindC t abs cs = some .dir ↔ ∃ d, resolveC t abs cs = some d ∧ t.kindOf d = some .dir := by
  fun_cases statKindC t abs cs <;> simp [*]

theorem statKindC_prefix (t : Tree) (abs : Bool) (more cs : List (List Nat))
    (h : statKindC t abs (cs ++ more) = some .dir) : statKindC t abs cs = some .dir := by
  rw [statKindC_dir_iff] at h ⊢
  obtain ⟨d, hd, hk⟩ := h
  unfold resolveC at hd ⊢
  rw [List.foldl_append] at hd
  cases more with
  | nil => exact ⟨d, hd, hk⟩
  | cons c more => exact foldl_rstep_cons_some hd

theorem statKindC_nil (t : Tree) (ht : t.kindOf t.cwd = some .dir) (abs : Bool) :
    statKindC t abs [] = some .dir := by
  cases abs with
  | true => rfl
  | false => exact ht

/-- Stated for an arbitrary predicate of the result, so that the case analysis works on a small
goal. -/
theorem mkdirC_elim {Q : Tree × Option Int → Prop} (t : Tree) (abs : Bool) (cs : List (List Nat))
    (herr : ∀ e, e ≠ 0 → Q (t, some e))
    (hok : ∀ pre par last, cs = pre ++ [last] → resolveC t abs pre = some par →
      t.kindOf par = some .dir → last ≠ [dot] → last ≠ [dot, dot] →
      t.kindOf (par ++ [last]) = none → Q (addDir t (par ++ [last]), none)) :
    Q (mkdirC t abs cs) := by
  fun_cases mkdirC t abs cs with
  | case7 last hl par hpar _ hk hd hn =>  -- the last branch of `mkdirC`: the directory is added
    obtain ⟨pre, rfl⟩ := List.getLast?_eq_some_iff.1 hl
    rw [List.dropLast_concat] at hpar
    exact hok pre par last rfl hpar (Classical.not_not.1 hk) (fun h => hd (Or.inl h))
      (fun h => hd (Or.inr h)) (by simpa using hn)
  | _ => exact herr _ (by decide)  -- every other branch returns `t` and a literal errno

theorem mkdirC_err (t t' : Tree) (abs : Bool) (cs : List (List Nat)) (e : Int)
    (h : mkdirC t abs cs = (t', some e)) : t' = t ∧ e ≠ 0 :=
  mkdirC_elim (Q := fun r => r = (t', some e) → t' = t ∧ e ≠ 0) t abs cs
    (fun _ he h => by cases h; exact ⟨rfl, he⟩) (fun _ _ _ _ _ _ _ _ _ h => by cases h) h

theorem mkdirC_ok (t t' : Tree) (abs : Bool) (cs : List (List Nat))
    (h : mkdirC t abs cs = (t', none)) :
    ∃ pre par last, cs = pre ++ [last] ∧ resolveC t abs pre = some par ∧
      t.kindOf par = some .dir ∧ last ≠ [dot] ∧ last ≠ [dot, dot] ∧
      t.kindOf (par ++ [last]) = none ∧ t' = addDir t (par ++ [last]) :=
  mkdirC_elim (Q := fun r => r = (t', none) → _) t abs cs (fun _ _ h => by cases h)
    (fun pre par last h1 h2 h3 h4 h5 h6 h => by
      cases h
      exact ⟨pre, par, last, h1, h2, h3, h4, h5, h6, rfl⟩) h

section table
variable {κ : Type} {dir : κ} {nodes : List (List (List Nat) × κ)}

/-- `t.kindOf` is `lk .dir t.nodes`, and so is `t.lookup` for a tree with links, by `rfl`. -/
def lk (dir : κ) (nodes : List (List (List Nat) × κ)) (p : List (List Nat)) : Option κ :=
  if p = [] then some dir else (nodes.find? (·.1 = p)).map (·.2)

theorem lk_append_eq (more : List (List (List Nat) × κ)) (p : List (List Nat)) :
    lk dir (nodes ++ more) p = (lk dir nodes p).or (lk dir more p) := by
  unfold lk
  split
  · rfl
  · rw [List.find?_append, Option.map_or]

theorem lk_append {p : List (List Nat)} {k : κ} (more : List (List (List Nat) × κ))
    (h : lk dir nodes p = some k) : lk dir (nodes ++ more) p = some k := by
  rw [lk_append_eq, h, Option.some_or]

theorem lk_append_new {q : List (List Nat)} (k : κ) (hq : q ≠ []) (h : lk dir nodes q = none) :
    lk dir (nodes ++ [(q, k)]) q = some k := by
  rw [lk_append_eq, h, Option.none_or]
  simp [lk, hq]

theorem lk_some_mem {d : List (List Nat)} {k : κ} (h : lk dir nodes d = some k) :
    (d = [] ∧ k = dir) ∨ (d, k) ∈ nodes := by
  unfold lk at h
  split at h
  · exact .inl ⟨‹_›, (Option.some.inj h).symm⟩
  · obtain ⟨x, hf, rfl⟩ := Option.map_eq_some_iff.1 h
    have h1 := List.find?_some hf
    exact .inr ((of_decide_eq_true h1 : x.1 = d) ▸ List.mem_of_find?_eq_some hf)

theorem lk_none_not_mem {q : List (List Nat)} (h : lk dir nodes q = none) :
    q ∉ nodes.map (·.1) := by
  unfold lk at h
  by_cases hq : q = []
  · simp [hq] at h
  · rw [if_neg hq] at h
    simp only [Option.map_eq_none_iff, List.find?_eq_none] at h
    intro hm
    obtain ⟨x, hx, hxq⟩ := List.mem_map.1 hm
    exact h x hx (by simpa using hxq)

end table

theorem resolveC_addDir_mono (t : Tree) (q : List (List Nat)) (abs : Bool) (cs : List (List Nat))
    (d : List (List Nat)) (h : resolveC t abs cs = some d) :
    resolveC (addDir t q) abs cs = some d := by
  unfold resolveC at h ⊢
  have hs : startOf (addDir t q) abs = startOf t abs := rfl
  rw [hs]
  generalize some (startOf t abs) = acc at h ⊢
  induction cs generalizing acc with
  | nil => exact h
  | cons c cs ih =>
    obtain ⟨cur, rfl, hk⟩ := foldl_rstep_cons_some h
    have hk' : (addDir t q).kindOf cur = some .dir := lk_append _ hk
    rw [List.foldl_cons] at h ⊢
    rw [show rstep (addDir t q) (some cur) c = rstep t (some cur) c by simp [rstep, hk, hk']]
    exact ih _ h

def GoodName (c : List Nat) : Prop := c ≠ [] ∧ sep ∉ c ∧ 0 ∉ c ∧ c ≠ [dot] ∧ c ≠ [dot, dot]

/-- What the lemmas here ask of a tree.  `Zix.C15.TreeOK`, in which C15 states its theorems, is the
same five fields with `GoodName` written out; it stands in the Properties file, which imports this
one (`TreeOK.wf`). -/
structure TreeWF (t : Tree) : Prop where
  parents : ∀ p k, (p, k) ∈ t.nodes → p ≠ [] ∧ t.kindOf p.dropLast = some .dir
  names   : ∀ p k, (p, k) ∈ t.nodes → ∀ c ∈ p, GoodName c
  nodup   : (t.nodes.map (·.1)).Nodup
  cwdDir  : t.kindOf t.cwd = some .dir
  cwdNames : ∀ c ∈ t.cwd, GoodName c

/-- A well formed node table, for any type of kinds: what `TreeWF` and the `TreeOK` of the tree with
links (which asks in addition that link targets have no NUL) share, so that one `TableOK.add` serves
`addDir_wf` and `addNode_ok`.  `TreeWF t` is `TableOK .dir t.nodes t.cwd` field by field. -/
structure TableOK {κ : Type} (dir : κ) (nodes : List (List (List Nat) × κ))
    (cwd : List (List Nat)) : Prop where
  parents : ∀ p k, (p, k) ∈ nodes → p ≠ [] ∧ lk dir nodes p.dropLast = some dir
  names   : ∀ p k, (p, k) ∈ nodes → ∀ c ∈ p, GoodName c
  nodup   : (nodes.map (·.1)).Nodup
  cwdDir  : lk dir nodes cwd = some dir
  cwdNames : ∀ c ∈ cwd, GoodName c

theorem TableOK.add {κ : Type} {dir : κ} {nodes : List (List (List Nat) × κ)}
    {cwd : List (List Nat)} (h : TableOK dir nodes cwd) {d : List (List Nat)} {n : List Nat} (k : κ)
    (hd : lk dir nodes d = some dir) (hn : GoodName n) (hnew : lk dir nodes (d ++ [n]) = none) :
    TableOK dir (nodes ++ [(d ++ [n], k)]) cwd := by
  constructor
  · intro p k' hp
    rcases List.mem_append.1 hp with hp | hp
    · exact ⟨(h.parents p k' hp).1, lk_append _ (h.parents p k' hp).2⟩
    · cases List.mem_singleton.1 hp
      exact ⟨by simp, by rw [List.dropLast_concat]; exact lk_append _ hd⟩
  · intro p k' hp c hc
    rcases List.mem_append.1 hp with hp | hp
    · exact h.names p k' hp c hc
    · cases List.mem_singleton.1 hp
      rcases List.mem_append.1 hc with hc | hc
      · rcases lk_some_mem hd with ⟨rfl, _⟩ | hm
        · cases hc
        · exact h.names d _ hm c hc
      · cases List.mem_singleton.1 hc; exact hn
  · rw [List.map_append, List.nodup_append]
    refine ⟨h.nodup, by simp, fun a ha b hb hab => ?_⟩
    cases List.mem_singleton.1 hb
    cases hab
    exact lk_none_not_mem hnew ha
  · exact lk_append _ h.cwdDir
  · exact h.cwdNames

theorem addDir_wf (t : Tree) (ht : TreeWF t) (d : List (List Nat)) (n : List Nat)
    (hd : t.kindOf d = some .dir) (hn : GoodName n) (hnew : t.kindOf (d ++ [n]) = none) :
    TreeWF (addDir t (d ++ [n])) :=
  have h := TableOK.add (dir := Kind.dir)
    ⟨ht.parents, ht.names, ht.nodup, ht.cwdDir, ht.cwdNames⟩ .dir hd hn hnew
  ⟨h.parents, h.names, h.nodup, h.cwdDir, h.cwdNames⟩

theorem headD_take (s : List Nat) (k : Nat) (hk : 0 < k) : (s.take k).headD 0 = s.headD 0 := by
  rw [List.headD_eq_head?_getD, List.headD_eq_head?_getD, List.head?_take, if_neg (by omega)]

end Zix.Fs

import ZixModel.Model.PathBuf
import ZixModel.Lemmas.PathRelative
import ZixModel.Lemmas.PathNormal
/-! Sizes of the results of the path builders against the sizes they request. -/
namespace Zix.PathBuf.Aux
open Zix.Path Zix.PathBuf Zix.Path.Scan

theorem join_fits (a b : Option (List Nat)) : (join a b).length + 1 = joinAlloc a b := by
  cases a with
  | none => simp [join, joinAlloc]
  | some as =>
    cases as with
    | nil => simp [join, joinAlloc]
    | cons c t =>
      -- `a` has a root directory exactly when it is absolute: the clause `!a_has_root_dir &&
      -- zix_path_is_absolute(a)` of path.c, kept in `joinAlloc` and left out of `Path.join`, is
      -- never true
      simp only [join, joinAlloc, rootDir_nonempty, isAbsolute]
      by_cases hb : isSep (at' (b.getD []) 0) = true
      · simp [hb]
      · by_cases hf : (filenameRange (c :: t)).isEmpty = true <;>
          simp [hb, hf] <;>
          omega

theorem scan_le (q : Nat → Bool) (s : List Nat) (i : Nat) (hi : i ≤ s.length) :
    i + ((s.drop i).takeWhile q).length ≤ s.length := by
  have := (List.takeWhile_sublist q (l := s.drop i)).length_le
  rw [List.length_drop] at this; omega

theorem skipSeps_le (s : List Nat) (i : Nat) (hi : i ≤ s.length) :
    skipSeps s (s.length + 1) i ≤ s.length :=
  skipSeps_eq s i ▸ scan_le isSep s i hi

theorem skipName_le (s : List Nat) (i : Nat) (hi : i ≤ s.length) :
    skipName s (s.length + 1) i ≤ s.length :=
  skipName_eq_nameByte s i ▸ scan_le nameByte s i hi

/-- Input bytes an element accounts for: its text and (when one follows) one separator. -/
def cost : List (List Nat × Bool) → Nat
  | [] => 0
  | el :: es => el.1.length + (if el.2 then 1 else 0) + cost es

theorem normStep_length (rl : Nat) (hr : Bool) (out : List Nat) (el : List Nat × Bool) :
    (normStep rl hr out el).length ≤ out.length + el.1.length + (if el.2 then 1 else 0) := by
  have hf : ∀ f, (if f = true then [sep] else []).length = if f = true then 1 else 0 :=
    fun f => by cases f <;> rfl
  fun_cases normStep rl hr out el with
  | case1 | case4 => omega  -- dot, or dot-dot at the root: unchanged
  | case2 => rw [List.length_take]; omega  -- dot-dot takes the last name off
  | case3 | case5 =>
    rw [List.length_append, List.length_append, hf]
    exact Nat.le_refl _

theorem foldl_normStep_length (rl : Nat) (hr : Bool) :
    ∀ (es : List (List Nat × Bool)) (out : List Nat),
    (es.foldl (normStep rl hr) out).length ≤ out.length + cost es := by
  intro es out
  fun_induction List.foldl (normStep rl hr) out es with
  | case1 out => exact Nat.le_refl _
  | case2 out el es ih =>
    have := normStep_length rl hr out el
    simp only [cost]
    omega

theorem trace_length (rl : Nat) (hr : Bool) (B : Nat) :
    ∀ (es : List (List Nat × Bool)) (out : List Nat) (tr : List (List Nat)),
    out.length + cost es ≤ B → (∀ x ∈ tr, x.length ≤ B) →
    ∀ x ∈ (es.foldl (fun (acc : List Nat × List (List Nat)) el =>
        let o := normStep rl hr acc.1 el
        (o, acc.2 ++ [o])) (out, tr)).2, x.length ≤ B := by
  intro es
  induction es with
  | nil => intro out tr _ h; simpa using h
  | cons el es ih =>
    intro out tr hB htr
    have h2 := normStep_length rl hr out el
    simp only [cost] at hB
    apply ih
    · simp only; omega
    · intro x hx
      simp only [List.mem_append, List.mem_singleton] at hx
      rcases hx with hx | hx
      · exact htr x hx
      · subst hx; omega

theorem cost_append (a b : List (List Nat × Bool)) : cost (a ++ b) = cost a + cost b := by
  induction a with
  | nil => simp [cost]
  | cons e a ih => simp only [List.cons_append, cost, ih]; omega

theorem cost_flat (es : List (List Nat × Nat)) :
    cost ((es.map (·.1)).map (fun n => (n, true))) ≤ (flat es).length := by
  induction es with
  | nil => exact Nat.le_refl 0
  | cons e es ih =>
    simp only [List.map_cons, cost, flat, List.length_append, List.length_replicate, if_true]
    omega

/-- On the decomposition, each element accounts for its text and one of the separators behind it. -/
theorem root_add_cost_le (s : List Nat) (h0 : 0 ∉ s) :
    (slice s (rootPathRange s)).length + cost (relElems s (s.length + 1) (rootPathRange s).2) ≤
      s.length := by
  obtain ⟨k, es, tail, rfl, hes, ht⟩ := exists_decomp s
  obtain ⟨hroot, hro⟩ := rootPathRange_decomp k es tail hes ht
  rw [hroot, hro, Norm.relElems_decomp k es tail hes ht h0, cost_append, Norm.rootText_length]
  have := cost_flat es
  have : cost (if tail = [] then [] else [(tail, false)]) ≤ tail.length := by
    split <;> simp [cost]
  have : (if decide (0 < k) = true then 1 else 0) ≤ k := by
    split <;>
      simp_all <;>
      omega
  simp only [List.length_append, List.length_replicate]
  omega

theorem normal_trace_le (s : List Nat) (h0 : 0 ∉ s) : ∀ o ∈ normalTrace s, o.length ≤ s.length := by
  unfold normalTrace
  simp only [map_preferred]
  apply trace_length
  · exact root_add_cost_le s h0
  · intro x hx
    simp only [List.mem_singleton] at hx
    subst hx
    have := root_add_cost_le s h0
    omega

theorem finish_le (rl : Nat) (out : List Nat) (n : Nat) (hn : 0 < n) (h : out.length ≤ n) :
    (Norm.finish rl out).length ≤ n := by
  fun_cases Norm.finish rl out with
  | case1 => exact hn  -- emptied: the dot
  | case2 =>
    show (if Norm.stripCond rl out then out.dropLast else out).length ≤ n
    split
    · rw [List.length_dropLast]; omega
    · exact h

theorem normalize_le (s : List Nat) (h0 : 0 ∉ s) : (normalize s).length ≤ s.length := by
  by_cases hs : s = []
  · subst hs; exact Nat.le_refl 0
  · rw [Norm.normalize_eq s hs _ rfl]
    have hf := foldl_normStep_length (slice s (rootPathRange s)).length
      (decide ((slice s (rootPathRange s)).length > 0 ∧
        (slice s (rootPathRange s)).getLastD 0 = sep))
      (relElems s (s.length + 1) (rootPathRange s).2) (slice s (rootPathRange s))
    have hr := root_add_cost_le s h0
    exact finish_le _ _ _ (List.length_pos_iff.mpr hs) (by omega)

def InBounds (s : List Nat) (it : PathIter) : Prop := it.range.1 ≤ s.length ∧ it.range.2 ≤ s.length

theorem next_inBounds (s : List Nat) (it : PathIter) (h : InBounds s it) :
    InBounds s (next s it) := by
  have hs := skipSeps_le s it.range.2 h.2
  have hit : InBounds s (if it.state = .rootName ∨ it.state = .rootDir then
      ⟨(skipSeps s (s.length + 1) it.range.2, skipSeps s (s.length + 1) it.range.2), .fileName⟩
      else it) := by
    split
    · exact ⟨hs, hs⟩
    · exact h
  fun_cases next s it with
  | case1 hc => exact ⟨h.2, lt_of_isSep_at' hc.2⟩
  | case2 => exact ⟨hit.2, hit.2⟩
  | case3 => exact ⟨skipSeps_le s _ hit.2, skipName_le s _ (skipSeps_le s _ hit.2)⟩
  | case4 => exact hit

theorem begin_inBounds (s : List Nat) : InBounds s (begin s) := by
  apply next_inBounds
  simp [InBounds]

theorem skipCommon_inBounds (p b : List Nat) :
    ∀ fuel x y, InBounds p x → InBounds p (skipCommon p b fuel x y).1 := by
  intro fuel x y h
  fun_induction skipCommon p b fuel x y with
  | case1 | case3 => exact h
  | case2 fuel x y _ ih => exact ih (next_inBounds p x h)

theorem upsText_length (n : Nat) : (Rel.upsText (n + 1)).length = 3 * n + 2 := by
  have : ∀ n, (flat (List.replicate n ([dot, dot], 0))).length = 3 * n := by
    intro n
    induction n with
    | zero => rfl
    | succ n ih => simp [List.replicate_succ, flat, ih]; omega
  rw [Rel.upsText_succ, List.length_append, this]; rfl

/-- Bytes `zix_path_lexically_relative` requests for a plan (`Rel.relPlan`). -/
def size (p : List Nat) : Option (PathIter × Nat) → Nat
  | none => 2
  | some (x, up) => up * 3 + p.length - x.range.1 + 1

theorem relativeAlloc_eq_plan (p b : List Nat) :
    relativeAlloc p b = (Rel.relPlan p b).map (size p) := by
  unfold relativeAlloc Rel.relPlan Rel.planTail
  generalize skipCommon p b (p.length + b.length + 4) (begin p) (begin b) = xy
  obtain ⟨x, y⟩ := xy
  generalize countBase b (b.length + 2) y (0, 0) = c
  obtain ⟨u, n⟩ := c
  simp only [apply_ite (Option.map (size p)), Option.map_none, Option.map_some, size]

theorem planTail_fst {x y x' : PathIter} {c : Nat × Nat} {up : Nat}
    (h : Rel.planTail x y c = some (some (x', up))) : x' = x := by
  revert h
  fun_cases Rel.planTail x y c with
  | case1 | case2 | case3 => nofun  -- ".", NULL, "."
  | case4 =>
    exact fun h => (Prod.mk.inj (Option.some.inj (Option.some.inj h))).1.symm

theorem relPlan_inBounds (p b : List Nat) (x : PathIter) (up : Nat)
    (h : Rel.relPlan p b = some (some (x, up))) :
    x.range.1 ≤ p.length := by
  unfold Rel.relPlan at h
  split at h
  · cases h
  · rw [planTail_fst h]
    exact (skipCommon_inBounds p b _ _ _ (begin_inBounds p)).1

theorem render_fits (p : List Nat) (x : PathIter) (up : Nat) (hx : x.range.1 ≤ p.length) :
    (Rel.render p (some (x, up))).length + 1 ≤ size p (some (x, up)) := by
  unfold Rel.render size
  dsimp only
  cases up with
  | zero =>
    rw [Rel.upsText_zero]
    split
    · rw [if_pos rfl, List.length_drop]; omega
    · rw [if_neg (fun h => Nat.lt_irrefl 0 h.1)]; exact Nat.le_add_left ..
  | succ n =>
    have hl := upsText_length n
    split
    · rw [if_neg (fun h => by rw [h] at hl; exact absurd hl (by simp))]
      simp only [List.length_append, List.length_drop, List.length_singleton, hl]; omega
    · split
      · simp only [List.length_append, List.length_singleton, hl]; omega
      · omega

theorem relative_alloc_none_iff (p b : List Nat) : relativeAlloc p b = none ↔ relative p b = none := by
  rw [relativeAlloc_eq_plan, Rel.relative_eq_plan, Option.map_eq_none_iff, Option.map_eq_none_iff]

theorem relative_fits (p b r : List Nat) (h : relative p b = some r) :
    ∃ n, relativeAlloc p b = some n ∧ r.length + 1 ≤ n := by
  rw [Rel.relative_eq_plan, Option.map_eq_some_iff] at h
  obtain ⟨o, ho, rfl⟩ := h
  refine ⟨size p o, by rw [relativeAlloc_eq_plan, ho]; rfl, ?_⟩
  cases o with
  | none => exact Nat.le_refl 2
  | some xu => exact render_fits p xu.1 xu.2 (relPlan_inBounds p b xu.1 xu.2 ho)

end Zix.PathBuf.Aux

import ZixModel.Model.FsLink
import ZixModel.Lemmas.PathRelative
/-! `zix_create_directories` visits the prefix of its path that ends at each file-name frame of the
component iterator.  Such a prefix ends at a `Cut`, the last is the whole string
(`fileFrames_ends`); the walks' `.go` have one equation per outcome at a visited prefix; and since a
walk sees the operating system only at prefixes of `s`, systems that agree there give the same walk
(`_congr`). -/
namespace Zix.MkdirsWalk
open Zix.Path Zix.Path.Scan Zix.Path.Rel Zix.FsLink

/-- `k` is a place where `zix_create_directories` chops the path: non-empty, inside the string, and
either the end or just before a separator. -/
def Cut (s : List Nat) (k : Nat) : Prop :=
  0 < k ∧ k ≤ s.length ∧ (k = s.length ∨ isSep (s.getD k 0) = true)

/-- `0 ∉ s`, here and below: the iterator takes a NUL for the end of the string
(`at'_eq_zero_iff`). -/
theorem frameAfter_cut (s : List Nat) (h0 : 0 ∉ s) (e : Nat) (hs : s.drop e ≠ []) :
    Cut s (frameAfter s e).range.2 := by
  have g := frameAfter_step s h0 e hs
  refine ⟨Nat.zero_lt_of_lt g.lt, g.le, ?_⟩
  cases hd : s.drop (frameAfter s e).range.2 with
  | nil => exact Or.inl (Nat.le_antisymm g.le (List.drop_eq_nil_iff.1 hd))
  | cons c r =>
    right
    have hne : ((s.drop e).dropWhile isSep).dropWhile notSep ≠ [] := by
      rw [← g.rest, hd]; exact nofun
    have h2 := List.head_dropWhile_not notSep (l := (s.drop e).dropWhile isSep) hne
    have h3 : (((s.drop e).dropWhile isSep).dropWhile notSep).head hne = c := by
      simp only [← g.rest, hd, List.head_cons]
    show isSep (at' s (frameAfter s e).range.2) = true
    rw [at'_eq_headD, hd, List.headD_cons, ← h3]
    simpa [notSep] using h2

theorem framesG_ends (s : List Nat) (h0 : 0 ∉ s) (fuel e : Nat) (h : s.length - e ≤ fuel) :
    (∀ f ∈ frames s fuel (frameAfter s e), f.state = .fileName ∧ Cut s f.range.2) ∧
    (frames s fuel (frameAfter s e) = [] → s.drop e = []) ∧
    (∀ f, (frames s fuel (frameAfter s e)).getLast? = some f → f.range.2 = s.length) :=
  frames_frameAfter_rec s h0 (P := fun e fs => (∀ f ∈ fs, f.state = .fileName ∧ Cut s f.range.2) ∧
      (fs = [] → s.drop e = []) ∧ ∀ f, fs.getLast? = some f → f.range.2 = s.length)
    (fun e h => ⟨nofun, fun _ => h, nofun⟩)
    (fun e fs hs ⟨i1, i2, i3⟩ => by
      have hst := (frameAfter_step s h0 e hs).state
      have hcut := frameAfter_cut s h0 e hs
      refine ⟨fun f hf => ?_, nofun, fun f hf => ?_⟩
      · rcases List.mem_cons.1 hf with rfl | hf
        · exact ⟨hst, hcut⟩
        · exact i1 f hf
      · cases fs with
        | nil =>
          -- the last frame: the text has ended behind it
          cases hf
          exact Nat.le_antisymm hcut.2.1 (List.drop_eq_nil_iff.1 (i2 rfl))
        | cons g rest => exact i3 f (by rwa [List.getLast?_cons_cons] at hf))
    fuel e h

/-- The frames whose prefixes `zix_create_directories` visits: all but the root directory. -/
abbrev fileFrames (s : List Nat) : List PathIter :=
  (allFrames s).filter (fun f => f.state = .fileName)

theorem fileFrames_ends (s : List Nat) (h0 : 0 ∉ s) :
    (∀ f ∈ fileFrames s, Cut s f.range.2) ∧
    (fileFrames s = [] → ∀ c ∈ s, isSep c = true) ∧
    (∀ f, (fileFrames s).getLast? = some f → f.range.2 = s.length) := by
  obtain ⟨fuel, e, hfuel, hd, heq⟩ := allFrames_eq s
  obtain ⟨i1, i2, i3⟩ := framesG_ends s h0 fuel e hfuel
  -- the root frame, if any, is no file name; all the others are
  have hfil := List.filter_eq_self.2 fun f hf => decide_eq_true (i1 f hf).1
  have : fileFrames s = frames s fuel (frameAfter s e) := by
    rw [fileFrames, heq, List.filter_append, hfil]
    split <;> rfl
  rw [this]
  exact ⟨fun f hf => (i1 f hf).2, fun h => dropWhile_nil_all isSep s (hd ▸ i2 h), i3⟩

section go
variable {σ : Type} (isDir : σ → List Nat → Bool) (mkdir : σ → List Nat → σ × Option Int)
  (s : List Nat)

theorem go_nil (t : σ) : createDirectoriesG.go isDir mkdir s [] t = (t, 0) := by
  rw [createDirectoriesG.go]

theorem go_cons_dir (f : PathIter) (rest : List PathIter) (t : σ)
    (h : isDir t (s.take f.range.2) = true) :
    createDirectoriesG.go isDir mkdir s (f :: rest) t =
      createDirectoriesG.go isDir mkdir s rest t := by
  rw [createDirectoriesG.go]
  simp only [h, if_true]

theorem go_cons_ok (f : PathIter) (rest : List PathIter) (t t' : σ)
    (h : isDir t (s.take f.range.2) = false) (hm : mkdir t (s.take f.range.2) = (t', none)) :
    createDirectoriesG.go isDir mkdir s (f :: rest) t =
      createDirectoriesG.go isDir mkdir s rest t' := by
  rw [createDirectoriesG.go]
  simp only [h, hm, Bool.false_eq_true, if_false]

theorem go_cons_err (f : PathIter) (rest : List PathIter) (t t' : σ) (e : Int)
    (h : isDir t (s.take f.range.2) = false) (hm : mkdir t (s.take f.range.2) = (t', some e)) :
    createDirectoriesG.go isDir mkdir s (f :: rest) t = (t', Zix.Errno.errnoStatus e) := by
  rw [createDirectoriesG.go]
  simp only [h, hm, Bool.false_eq_true, if_false]

theorem createDirectoriesG_ne (t : σ) (hs : s ≠ []) : createDirectoriesG isDir mkdir t s =
    createDirectoriesG.go isDir mkdir s (fileFrames s) t := by
  unfold createDirectoriesG
  rw [if_neg hs]

theorem createDirectoriesG_nil (t : σ) : createDirectoriesG isDir mkdir t [] = (t, 5) := by
  simp [createDirectoriesG]

end go

section goE
variable {σ : Type} (isDir : σ → List Nat → Bool) (mkdir : σ → List Nat → σ × Option Int)
  (env : Nat → List Nat → σ → σ) (s : List Nat)

theorem goE_nil (k : Nat) (t : σ) : createDirectoriesE.go isDir mkdir env s [] k t = (t, 0) := by
  rw [createDirectoriesE.go]

theorem goE_cons_dir (f : PathIter) (rest : List PathIter) (k : Nat) (t : σ)
    (h : isDir t (s.take f.range.2) = true) :
    createDirectoriesE.go isDir mkdir env s (f :: rest) k t =
      createDirectoriesE.go isDir mkdir env s rest k t := by
  rw [createDirectoriesE.go]
  simp only [h, if_true]

theorem goE_cons_ok (f : PathIter) (rest : List PathIter) (k : Nat) (t t' : σ)
    (h : isDir t (s.take f.range.2) = false)
    (hm : mkdir (env k (s.take f.range.2) t) (s.take f.range.2) = (t', none)) :
    createDirectoriesE.go isDir mkdir env s (f :: rest) k t =
      createDirectoriesE.go isDir mkdir env s rest (k + 1) t' := by
  rw [createDirectoriesE.go]
  simp only [h, hm, Bool.false_eq_true, if_false]

theorem goE_cons_retry (f : PathIter) (rest : List PathIter) (k : Nat) (t t' : σ) (e : Int)
    (h : isDir t (s.take f.range.2) = false)
    (hm : mkdir (env k (s.take f.range.2) t) (s.take f.range.2) = (t', some e))
    (he : Zix.Errno.errnoStatus e = 4) (hd : isDir t' (s.take f.range.2) = true) :
    createDirectoriesE.go isDir mkdir env s (f :: rest) k t =
      createDirectoriesE.go isDir mkdir env s rest (k + 1) t' := by
  rw [createDirectoriesE.go]
  simp only [h, hm, he, hd, Bool.false_eq_true, if_false, and_self, if_true]

theorem goE_cons_err (f : PathIter) (rest : List PathIter) (k : Nat) (t t' : σ) (e : Int)
    (h : isDir t (s.take f.range.2) = false)
    (hm : mkdir (env k (s.take f.range.2) t) (s.take f.range.2) = (t', some e))
    (hn : ¬ (Zix.Errno.errnoStatus e = 4 ∧ isDir t' (s.take f.range.2) = true)) :
    createDirectoriesE.go isDir mkdir env s (f :: rest) k t = (t', Zix.Errno.errnoStatus e) := by
  rw [createDirectoriesE.go]
  simp only [h, hm, Bool.false_eq_true, if_false]
  rw [if_neg hn]

theorem createDirectoriesE_ne (t : σ) (hs : s ≠ []) : createDirectoriesE isDir mkdir env t s =
    createDirectoriesE.go isDir mkdir env s (fileFrames s) 0 t := by
  unfold createDirectoriesE
  rw [if_neg hs]

theorem createDirectoriesE_nil (t : σ) : createDirectoriesE isDir mkdir env t [] = (t, 5) := by
  simp [createDirectoriesE]

end goE

section
variable {σ : Type} {isDir isDir' : σ → List Nat → Bool}
  {mkdir mkdir' : σ → List Nat → σ × Option Int}

theorem createDirectoriesG_congr (s : List Nat)
    (h1 : ∀ t k, isDir t (s.take k) = isDir' t (s.take k))
    (h2 : ∀ t k, mkdir t (s.take k) = mkdir' t (s.take k)) (t : σ) :
    createDirectoriesG isDir mkdir t s = createDirectoriesG isDir' mkdir' t s := by
  unfold createDirectoriesG
  split
  · rfl
  · generalize (allFrames s).filter _ = fr
    induction fr generalizing t with
    | nil => rfl
    | cons f rest ih =>
      rw [createDirectoriesG.go.eq_2, createDirectoriesG.go.eq_2]
      simp only [h1, h2, ih]

theorem createDirectoriesE_congr {env env' : Nat → List Nat → σ → σ} (s : List Nat)
    (h1 : ∀ t k, isDir t (s.take k) = isDir' t (s.take k))
    (h2 : ∀ t k, mkdir t (s.take k) = mkdir' t (s.take k))
    (h3 : ∀ i t k, env i (s.take k) t = env' i (s.take k) t) (t : σ) :
    createDirectoriesE isDir mkdir env t s = createDirectoriesE isDir' mkdir' env' t s := by
  unfold createDirectoriesE
  split
  · rfl
  · generalize (allFrames s).filter _ = fr
    generalize 0 = i
    induction fr generalizing t i with
    | nil => rfl
    | cons f rest ih =>
      rw [createDirectoriesE.go.eq_2, createDirectoriesE.go.eq_2]
      simp only [h1, h2, h3, ih]
end

end Zix.MkdirsWalk

namespace Zix.C15Link
open Zix.Path

/-- A path string as the C functions see it: up to its first NUL.  (`OsLaws` quantifies over all
strings; the instances wrap their calls in `cstr`, and on NUL-free paths the wrapping
disappears.) -/
def cstr (s : List Nat) : List Nat := s.takeWhile (· ≠ 0)

theorem cstr_nul_free (s : List Nat) : 0 ∉ cstr s := by
  intro h
  have := Zix.Path.Scan.mem_takeWhile (p := fun x => decide (x ≠ 0)) h
  simp at this

theorem cstr_eq_self (s : List Nat) (h0 : 0 ∉ s) : cstr s = s := by
  unfold cstr
  induction s with
  | nil => rfl
  | cons a r ih =>
    have ha : a ≠ 0 := fun h => h0 (by simp [h])
    rw [List.takeWhile_cons, if_pos (by simpa using ha), ih (fun h => h0 (by simp [h]))]

theorem cstr_take (s : List Nat) (k : Nat) : cstr (s.take k) = (cstr s).take k :=
  List.take_takeWhile.symm

theorem cstr_getD (s : List Nat) (i : Nat) (h : i < (cstr s).length) :
    (cstr s).getD i 0 = s.getD i 0 := by
  have hp : cstr s <+: s := List.takeWhile_prefix _
  rw [List.getD_eq_getElem?_getD, List.getD_eq_getElem?_getD, List.getElem?_eq_getElem h,
    List.getElem?_eq_getElem (Nat.lt_of_lt_of_le h hp.length_le), hp.getElem h]

theorem cstr_prefix_closed {p : List Nat → Prop}
    (h : ∀ s k, p s → 0 < k → k ≤ s.length →
      (k = s.length ∨ isSep (s.getD k 0) = true ∨ isSep (s.getD (k - 1) 0) = true) → p (s.take k))
    (s : List Nat) (k : Nat) (hd : p (cstr s)) (hk0 : 0 < k)
    (hb : k = s.length ∨ isSep (s.getD k 0) = true ∨ isSep (s.getD (k - 1) 0) = true) :
    p (cstr (s.take k)) := by
  rw [cstr_take]
  by_cases hz : (cstr s).length ≤ k
  · rw [List.take_of_length_le hz]
    exact hd
  · have hzs : (cstr s).length ≤ s.length := (List.takeWhile_sublist _).length_le
    refine h (cstr s) k hd hk0 (by omega) ?_
    rcases hb with hb | hb | hb
    · omega
    · exact .inr (.inl (cstr_getD s k (by omega) ▸ hb))
    · exact .inr (.inr (cstr_getD s (k - 1) (by omega) ▸ hb))

theorem cstr_take_self (s : List Nat) (h0 : 0 ∉ s) (n : Nat) : cstr (s.take n) = s.take n :=
  cstr_eq_self _ fun h => h0 ((List.take_sublist n s).subset h)

end Zix.C15Link

import ZixModel.Spec.Env
/-! The index-based scanner against the token-level specification.  The scanner at index `s` of
`str` is described by the split `str = pre ++ rest` with `s = pre.length`: what it reads are then
facts about the two lists. -/
namespace Zix.Env

theorem at'_append (pre rest : List Nat) (j : Nat) :
    at' (pre ++ rest) (pre.length + j) = at' rest j := by
  simp [at', List.getD_eq_getElem?_getD, List.getElem?_append_right]

theorem at'_zero (l : List Nat) : at' l 0 = l.headD 0 := by cases l <;> rfl

theorem take_drop_append (pre rest : List Nat) (start : Nat) (h : start ≤ pre.length) :
    ((pre ++ rest).drop start).take (pre.length - start) = pre.drop start := by
  rw [List.drop_append, Nat.sub_eq_zero_of_le h, List.drop_zero, List.take_left' (by simp)]

theorem isPathDelim_of_isVarChar {c : Nat} (h : isVarChar c = true) : isPathDelim c = false := by
  simp only [isVarChar, Bool.or_eq_true, Bool.and_eq_true, decide_eq_true_eq, beq_iff_eq] at h
  simp only [isPathDelim, Bool.or_eq_false_iff, beq_eq_false_iff_ne]
  omega

theorem takeWhile_append_of_headD {p : Nat → Bool} (name post : List Nat)
    (hn : ∀ c ∈ name, p c = true) (hp : p (post.headD 0) = false) :
    (name ++ post).takeWhile p = name ∧ (name ++ post).dropWhile p = post := by
  rw [List.takeWhile_append_of_pos hn, List.dropWhile_append_of_pos hn]
  cases post with
  | nil => simp
  | cons y ys => simp [show p y = false from hp]

theorem specFrom_ref (env : List (List Nat)) (b : Bool) (name post : List Nat)
    (hne : name ≠ []) (hn : ∀ c ∈ name, isVarChar c = true)
    (hp : isVarChar (post.headD 0) = false) :
    specFrom env b (36 :: (name ++ post)) =
      varText env (36 :: name) ++ specFrom env false post := by
  obtain ⟨ht, hdw⟩ := takeWhile_append_of_headD (p := isVarChar) name post hn hp
  have hhd : isVarChar ((name ++ post).headD 0) = true := by
    cases name with
    | nil => exact absurd rfl hne
    | cons x xs => exact hn x (by simp)
  rw [specFrom, if_pos ⟨rfl, hhd⟩, ht, hdw]

theorem specFrom_tilde (env : List (List Nat)) (b : Bool) (post : List Nat) :
    specFrom env b (126 :: post) =
      if isPathDelim (post.headD 0) = true ∧ b = true then homeText env ++ specFrom env false post
      else 126 :: specFrom env false post := by
  rw [specFrom, if_neg (fun h => absurd h.1 (by decide))]
  simp only [true_and, show isPathDelim 126 = false from by decide]

/-- The inner loop, having read `mid` behind `pre`, stops behind the longest run of name
characters. -/
theorem refLen_append (pre : List Nat) : ∀ (fuel : Nat) (mid r : List Nat),
    (r.takeWhile isVarChar).length ≤ fuel →
    refLen (pre ++ mid ++ r) pre.length mid.length fuel =
      mid.length + (r.takeWhile isVarChar).length := by
  intro fuel
  induction fuel with
  | zero =>
    intro mid r h
    rw [refLen, Nat.le_zero.1 h]
    rfl
  | succ fuel ih =>
    intro mid r h
    rw [refLen, ← List.length_append, ← Nat.add_zero (pre ++ mid).length, at'_append, at'_zero]
    cases r with
    | nil => rfl
    | cons x r =>
      by_cases hx : isVarChar x = true
      · rw [List.takeWhile_cons_of_pos hx] at h ⊢
        rw [List.headD_cons, if_pos hx, List.append_cons (pre ++ mid), List.append_assoc pre,
          show mid.length + 1 = (mid ++ [x]).length from (List.length_append (bs := [x])).symm,
          ih _ _ (Nat.le_of_succ_le_succ h)]
        simp only [List.length_append, List.length_cons, List.length_nil]
        omega
      · rw [List.headD_cons, if_neg hx, List.takeWhile_cons_of_neg hx]; rfl

open Zix.C16 (endsDelim)

/-- Left: the C test `s == 0 || is_path_delim(string[s - 1])` at the split position. -/
theorem endsDelim_iff (pre rest : List Nat) :
    (pre.length = 0 ∨ isPathDelim (at' (pre ++ rest) (pre.length - 1)) = true) ↔
      endsDelim true pre = true := by
  rcases List.eq_nil_or_concat pre with rfl | ⟨l, x, rfl⟩
  · simp [endsDelim]
  · have := at'_append l (x :: rest) 0
    simp [endsDelim, at'_zero] at this ⊢
    simp [this]

theorem endsDelim_concat (b : Bool) (pre : List Nat) (c : Nat) :
    endsDelim b (pre ++ [c]) = isPathDelim c := by
  simp [endsDelim]

theorem endsDelim_ref (b : Bool) (pre name : List Nat) (h : ∀ x ∈ name, isVarChar x = true) :
    endsDelim b (pre ++ 36 :: name) = false := by
  rcases List.eq_nil_or_concat name with rfl | ⟨l, x, rfl⟩
  · rw [endsDelim_concat]; decide
  · rw [show pre ++ 36 :: l.concat x = (pre ++ 36 :: l) ++ [x] by simp, endsDelim_concat]
    exact isPathDelim_of_isVarChar (h x (by simp))

theorem endsDelim_cons (b : Bool) (c : Nat) (pre : List Nat) :
    endsDelim b (c :: pre) = endsDelim (isPathDelim c) pre := by
  simp only [endsDelim, List.getLast?_cons]
  cases pre.getLast? <;> rfl

theorem specFrom_plain (env : List (List Nat)) (b : Bool) (pre rest : List Nat)
    (h1 : 36 ∉ pre) (h2 : 126 ∉ pre) :
    specFrom env b (pre ++ rest) = pre ++ specFrom env (endsDelim b pre) rest := by
  induction pre generalizing b with
  | nil => rfl
  | cons c pre ih =>
    have hc1 : c ≠ 36 := fun hc => h1 (by simp [hc])
    have hc2 : c ≠ 126 := fun hc => h2 (by simp [hc])
    rw [List.cons_append, specFrom, if_neg (fun h => hc1 h.1), if_neg (fun h => hc2 h.1),
      endsDelim_cons,
      ih _ (fun hm => h1 (List.mem_cons_of_mem _ hm)) (fun hm => h2 (List.mem_cons_of_mem _ hm))]
    rfl

/-- The scanner stands behind `pre`; the literal text since `start` is not yet copied. -/
theorem loop_append (env : List (List Nat)) :
    ∀ (fuel : Nat) (pre rest : List Nat) (start : Nat) (out : List Nat), 0 ∉ rest →
    start ≤ pre.length → rest.length < fuel →
    loop env (pre ++ rest) fuel pre.length start out
      = some (out ++ pre.drop start ++ specFrom env (endsDelim true pre) rest) := by
  intro fuel
  induction fuel with
  | zero => intro _ _ _ _ _ _ h; omega
  | succ fuel ih =>
    intro pre rest start out h0 hs hf
    rw [loop]
    simp only [endsDelim_iff, take_drop_append _ _ _ hs]
    rw [show at' (pre ++ rest) pre.length = rest.headD 0 from
      (at'_append pre rest 0).trans (at'_zero rest)]
    cases rest with
    | nil => simp [specFrom]
    | cons c r =>
      have hc0 : c ≠ 0 := fun h => h0 (by simp [h])
      have h0r : 0 ∉ r := fun h => h0 (List.mem_cons_of_mem _ h)
      have hat1 : at' (pre ++ c :: r) (pre.length + 1) = r.headD 0 :=
        (at'_append pre (c :: r) 1).trans (at'_zero r)
      have step : pre ++ c :: r = (pre ++ [c]) ++ r := by simp
      have hlen : (pre ++ [c]).length = pre.length + 1 := by simp
      have hf : r.length < fuel := Nat.lt_of_succ_lt_succ hf
      simp only [List.headD_cons, hc0, if_false, hat1]
      rw [specFrom]
      split
      · next h1 =>
        -- `r = name ++ post` with `name` the longest run of name characters
        have hsplit := List.takeWhile_append_dropWhile (p := isVarChar) (l := r)
        have hall : ∀ x ∈ r.takeWhile isVarChar, isVarChar x = true :=
          List.all_eq_true.1 List.all_takeWhile
        have ht : refLen (pre ++ c :: r) pre.length 1 (pre ++ c :: r).length
            = 1 + (r.takeWhile isVarChar).length := by
          rw [step]
          exact refLen_append pre _ [c] r
            (Nat.le_trans (List.takeWhile_prefix isVarChar).length_le
              (by rw [List.length_append]; exact Nat.le_add_left _ _))
        rw [ht, List.drop_left]
        generalize r.takeWhile isVarChar = name at hsplit hall ⊢
        generalize r.dropWhile isVarChar = post at hsplit ⊢
        subst hsplit
        rw [List.length_append] at hf
        rw [show pre ++ c :: (name ++ post) = (pre ++ c :: name) ++ post by simp,
          show pre.length + (1 + name.length) = (pre ++ c :: name).length by
            rw [List.length_append, List.length_cons]; omega,
          ih _ _ _ _ (fun h => h0r (List.mem_append_right _ h)) (Nat.le_refl _) (by omega), h1.1,
          endsDelim_ref _ _ _ hall]
        simp [Nat.add_comm 1]
      · split
        · next h2 =>
          rw [step, ← hlen, ih _ _ _ _ h0r (Nat.le_refl _) hf, endsDelim_concat]
          have : isPathDelim c = false := by rw [h2.1]; decide
          simp [this]
        · rw [step, ← hlen, ih _ _ _ _ h0r (by omega) hf, endsDelim_concat]
          simp [List.drop_append, Nat.sub_eq_zero_of_le hs]

end Zix.Env

import ZixModel.Model.RingRA
import ZixModel.Spec.RingRA
/-! Lemmas for C04, the release/acquire ring transition system.  The global invariant `Inv` is kept
by both threads' steps for every value an acquire load may return, the effects on the shared state
(a byte stored, either release store) being lemmas of their own; then the output invariant for
skip-free readers and the termination measure for wait-freedom. -/
namespace Zix.RingRA
open Zix.C04 (wWork rWork)

theorem mod_ne_of_lt_of_lt_add {a b n : Nat} (h1 : a < b) (h2 : b < a + n) : a % n ≠ b % n := by
  intro h
  have h0 : (b - a) % n = 0 := Nat.sub_mod_eq_zero_of_mod_eq h.symm
  rw [Nat.mod_eq_of_lt (by omega)] at h0
  omega

theorem getD_le_of_all_le {l : List Nat} {c : Nat} (h : ∀ x ∈ l, x ≤ c) (j : Nat) :
    l.getD j 0 ≤ c := by
  rw [List.getD_eq_getElem?_getD]
  cases hj : l[j]? with
  | none => simp
  | some x => simpa using h x (List.mem_of_getElem? hj)

theorem getD_append_lt {l x : List Nat} {p : Nat} (h : p < l.length) :
    (l ++ x).getD p 0 = l.getD p 0 := by
  simp [List.getD_eq_getElem?_getD, List.getElem?_append_left h]

theorem getD_append_length (l : List Nat) (b : Nat) : (l ++ [b]).getD l.length 0 = b := by
  simp [List.getD_eq_getElem?_getD]

theorem getD_set_self {α} {l : List α} {i : Nat} (h : i < l.length) (v d : α) :
    (l.set i v).getD i d = v := by
  simp [List.getD_eq_getElem?_getD, h]

theorem getD_set_ne' {α} {l : List α} {i j : Nat} (h : i ≠ j) (v d : α) :
    (l.set i v).getD j d = l.getD j d := by
  simp [List.getD_eq_getElem?_getD, List.getElem?_set_ne h]

theorem take_drop_append {l : List Nat} (x : List Nat) {a k : Nat} (h : a + k ≤ l.length) :
    ((l ++ x).drop a).take k = (l.drop a).take k := by
  rw [List.drop_append_of_le_length (by omega), List.take_append_of_le_length (by simp; omega)]

theorem take_drop_succ {l : List Nat} {a k : Nat} (h : a + k < l.length) :
    (l.drop a).take (k + 1) = (l.drop a).take k ++ [l.getD (a + k) 0] := by
  rw [List.take_add_one, List.getElem?_drop, List.getD_eq_getElem?_getD, List.getElem?_eq_getElem h]
  simp

theorem wSpace_eq {n seen pos : Nat} (h : seen ≤ pos) :
    wSpace n seen pos = seen + (n - 1) - pos := by
  unfold wSpace
  generalize n - 1 = m
  omega

theorem add_le_of_le_sub_of_le {k a p c : Nat} (hk : k ≤ a - p) (ha : a ≤ c) (hp : p ≤ c) :
    p + k ≤ c := by
  omega

theorem le_sub_succ {k a p : Nat} (h : k + 1 ≤ a - p) : k ≤ a - (p + 1) ∧ p < a :=
  ⟨by rw [Nat.sub_add_eq]; exact Nat.le_sub_one_of_lt h,
   Nat.lt_of_sub_pos (Nat.lt_of_lt_of_le (Nat.succ_pos k) h)⟩

/-- The model's `byteActs` and `readActs` by recursion (`byteActs_eq`, `readActs_eq`): a step of a
thread takes the head off its list, and what is left is again of this form. -/
def wActs : Nat → List Nat → List Act
  | _, [] => []
  | p, b :: bs => .bufWrite p b :: wActs (p + 1) bs

def rActs : Nat → Nat → List Act
  | _, 0 => []
  | p, k + 1 => .bufRead p :: rActs (p + 1) k

theorem byteActs_eq (pos : Nat) (data : List Nat) : byteActs pos data = wActs pos data := by
  fun_induction wActs pos data with
  | case1 => rfl
  | case2 p b bs ih =>
    simp [← ih, byteActs, List.range_succ_eq_map, Nat.add_assoc, Nat.add_comm 1]

theorem readActs_eq (pos k : Nat) : readActs pos k = rActs pos k := by
  fun_induction rActs pos k with
  | case1 => rfl
  | case2 p k ih =>
    simp [← ih, readActs, List.range_succ_eq_map, Nat.add_assoc, Nat.add_comm 1]

@[simp] theorem wActs_length (p : Nat) (d : List Nat) : (wActs p d).length = d.length := by
  fun_induction wActs p d with
  | case1 => rfl
  | case2 p b bs ih => simp [ih]

@[simp] theorem rActs_length (p k : Nat) : (rActs p k).length = k := by
  fun_induction rActs p k with
  | case1 => rfl
  | case2 p k ih => simp [ih]

theorem byteActs_length (p : Nat) (d : List Nat) : (byteActs p d).length = d.length := by
  rw [byteActs_eq, wActs_length]

theorem readActs_length (p k : Nat) : (readActs p k).length = k := by
  rw [readActs_eq, rActs_length]

theorem stepWriter_nil_none {s : St} (f : Nat) (ha : s.w.acts = []) (hp : s.w.pendingCall = none) :
    stepWriter s f = { s with w := wStart s.w } := by
  simp [stepWriter, ha, hp]

theorem stepWriter_nil_some {s : St} (f : Nat) (ha : s.w.acts = []) {c}
    (hp : s.w.pendingCall = some c) :
    stepWriter s f = { s with w := wExpand s.n s.w } := by
  simp [stepWriter, ha, hp]

/-! A thread just after its acquire load returned, before the call is expanded. -/

abbrev wLoad (s : St) (f : Nat) (rest : List Act) : Writer :=
  { s.w with
    view := pick s.w.view f s.rStores.length,
    seenConsumed := s.rStores.getD (pick s.w.view f s.rStores.length) 0, acts := rest }

abbrev rLoad (s : St) (f : Nat) (rest : List Act) : Reader :=
  { s.r with
    view := pick s.r.view f s.wStores.length,
    seenCommitted := s.wStores.getD (pick s.r.view f s.wStores.length) 0, acts := rest }

theorem stepWriter_load {s : St} (f : Nat) {rest} (ha : s.w.acts = .loadAcq :: rest) :
    stepWriter s f = { s with w := wExpand s.n (wLoad s f rest) } := by
  simp only [stepWriter, ha]

theorem stepWriter_bufWrite {s : St} (f : Nat) {pos b : Nat} {rest : List Act}
    (ha : s.w.acts = .bufWrite pos b :: rest) :
    stepWriter s f = { s with
      w := { s.w with acts := rest },
      cells := s.cells.set (pos % s.n) (pos, b),
      stagedBytes := s.stagedBytes ++ [b],
      race := s.race ||
        !(decide (pos < s.w.tx.elim s.w.seenConsumed (·.1) + s.n ∧ s.w.committed ≤ pos)) } := by
  rcases htx : s.w.tx with _ | ⟨sn, p⟩ <;>
    simp only [stepWriter, ha, htx, Option.elim] <;>
    rfl

theorem stepWriter_storeRel {s : St} (f : Nat) {c : Nat} {rest : List Act}
    (ha : s.w.acts = .storeRel c :: rest) :
    stepWriter s f = { s with
      w := { s.w with acts := rest, committed := c },
      wStores := s.wStores ++ [c],
      committedBytes := s.committedBytes ++ s.stagedBytes, stagedBytes := [] } := by
  simp [stepWriter, ha]

theorem stepReader_nil {s : St} (f : Nat) (ha : s.r.acts = []) :
    stepReader s f = { s with r := rStart s.r } := by
  simp [stepReader, ha]

theorem stepReader_load {s : St} (f : Nat) {rest} (ha : s.r.acts = .loadAcq :: rest) :
    stepReader s f = { s with r := rExpand (rLoad s f rest) } := by
  simp only [stepReader, ha]

theorem stepReader_bufRead {s : St} (f : Nat) {pos : Nat} {rest : List Act}
    (ha : s.r.acts = .bufRead pos :: rest) :
    stepReader s f = { s with
      r := { s.r with acts := rest, got := s.r.got ++ [(s.cells.getD (pos % s.n) (0, 0)).2] },
      race := s.race || !(decide (pos < s.r.seenCommitted ∧ s.r.consumed ≤ pos)) } := by
  simp [stepReader, ha]

theorem stepReader_deliver {s : St} (f : Nat) {rest} (ha : s.r.acts = .deliver :: rest) :
    stepReader s f = { s with
      r := { s.r with acts := rest }, output := s.output ++ s.r.got,
      deliveries := s.deliveries ++ [(s.r.consumed, s.r.got)] } := by
  simp [stepReader, ha]

theorem stepReader_discard {s : St} (f : Nat) {rest} (ha : s.r.acts = .discard :: rest) :
    stepReader s f = { s with
      r := { s.r with acts := rest, got := [] },
      deliveries := s.deliveries ++ [(s.r.consumed, s.r.got)] } := by
  simp [stepReader, ha]

theorem stepReader_storeRel {s : St} (f : Nat) {c : Nat} {rest : List Act}
    (ha : s.r.acts = .storeRel c :: rest) :
    stepReader s f =
      { s with r := { s.r with acts := rest, consumed := c }, rStores := s.rStores ++ [c] } := by
  simp [stepReader, ha]

theorem wStart_nil {w : Writer} (h : w.calls = []) : wStart w = w := by simp [wStart, h]

theorem wStart_write {w : Writer} {d rest} (h : w.calls = .write d :: rest) :
    wStart w = { w with calls := rest, pendingCall := some (.write d), acts := [.loadAcq] } := by
  simp [wStart, h]

theorem wStart_begin {w : Writer} {rest} (h : w.calls = .begin_ :: rest) :
    wStart w = { w with calls := rest, pendingCall := some .begin_, acts := [.loadAcq] } := by
  simp [wStart, h]

theorem wStart_amend {w : Writer} {d rest t} (h : w.calls = .amend d :: rest)
    (htx : w.tx = some t) :
    wStart w = { w with calls := rest, pendingCall := some (.amend d), acts := [] } := by
  simp [wStart, h, htx]

theorem wStart_commit {w : Writer} {rest sn pos} (h : w.calls = .commit :: rest)
    (htx : w.tx = some (sn, pos)) :
    wStart w =
      { w with calls := rest, pendingCall := none, tx := none, acts := [.storeRel pos] } := by
  simp [wStart, h, htx]

theorem wExpand_write {n : Nat} {w : Writer} {d} (hp : w.pendingCall = some (.write d)) :
    wExpand n w = if d.length ≤ wSpace n w.seenConsumed w.committed then
        { w with
          pendingCall := none,
          acts := byteActs w.committed d ++ [.storeRel (w.committed + d.length)] }
      else { w with pendingCall := none, acts := [] } := by
  simp only [wExpand, hp]

theorem wExpand_begin {n : Nat} {w : Writer} (hp : w.pendingCall = some .begin_) :
    wExpand n w =
      { w with pendingCall := none, tx := some (w.seenConsumed, w.committed), acts := [] } := by
  simp only [wExpand, hp]

theorem wExpand_amend {n : Nat} {w : Writer} {d sn pos} (hp : w.pendingCall = some (.amend d))
    (htx : w.tx = some (sn, pos)) :
    wExpand n w = if d.length ≤ wSpace n sn pos then
        { w with pendingCall := none, tx := some (sn, pos + d.length), acts := byteActs pos d }
      else { w with pendingCall := none, acts := [] } := by
  simp only [wExpand, hp, htx]

theorem wExpand_eq (n : Nat) (w : Writer) :
    wExpand n w =
      { w with pendingCall := none, tx := (wExpand n w).tx, acts := (wExpand n w).acts } := by
  fun_cases wExpand n w <;> rfl

theorem wExpand_calls (n : Nat) (w : Writer) : (wExpand n w).calls = w.calls := by rw [wExpand_eq]

theorem wExpand_pendingCall (n : Nat) (w : Writer) : (wExpand n w).pendingCall = none := by
  rw [wExpand_eq]

theorem rStart_nil {r : Reader} (h : r.calls = []) : rStart r = r := by simp [rStart, h]

theorem rStart_cons {r : Reader} {c rest} (h : r.calls = c :: rest) :
    rStart r = { r with calls := rest, pendingCall := some c, acts := [.loadAcq], got := [] } := by
  simp [rStart, h]

theorem rExpand_read {r : Reader} {k} (hp : r.pendingCall = some (.read k)) :
    rExpand r = if k ≤ r.seenCommitted - r.consumed ∧ 0 < k then
        { r with
          pendingCall := none,
          acts := readActs r.consumed k ++ [.deliver, .storeRel (r.consumed + k)] }
      else { r with pendingCall := none, acts := [] } := by
  simp only [rExpand, hp]

theorem rExpand_peek {r : Reader} {k} (hp : r.pendingCall = some (.peek k)) :
    rExpand r = if k ≤ r.seenCommitted - r.consumed then
        { r with pendingCall := none, acts := readActs r.consumed k ++ [.discard] }
      else { r with pendingCall := none, acts := [] } := by
  simp only [rExpand, hp]

theorem rExpand_skip {r : Reader} {k} (hp : r.pendingCall = some (.skip k)) :
    rExpand r = if k ≤ r.seenCommitted - r.consumed then
        { r with pendingCall := none, acts := [.storeRel (r.consumed + k)] }
      else { r with pendingCall := none, acts := [] } := by
  simp only [rExpand, hp]

theorem rExpand_none {r : Reader} (hp : r.pendingCall = none) : rExpand r = r := by
  simp only [rExpand, hp]

theorem rExpand_eq (r : Reader) :
    rExpand r = { r with pendingCall := none, acts := (rExpand r).acts } := by
  fun_cases rExpand r
  case case7 hp => rw [← hp]  -- no call in flight: `r` itself, whose `pendingCall` is `none`
  all_goals rfl

theorem rExpand_calls (r : Reader) : (rExpand r).calls = r.calls := by rw [rExpand_eq]

theorem rExpand_pendingCall (r : Reader) : (rExpand r).pendingCall = none := by rw [rExpand_eq]

theorem rExpand_consumed (r : Reader) : (rExpand r).consumed = r.consumed := by rw [rExpand_eq]

theorem stepWriter_frame (s : St) (f : Nat) : ∃ w cells ws x staged race,
    stepWriter s f = { s with
      w := w, cells := cells, wStores := ws, committedBytes := s.committedBytes ++ x,
      stagedBytes := staged, race := race } := by
  fun_cases stepWriter s f <;>
    first
    | exact ⟨_, _, _, [], _, _, by rw [List.append_nil]⟩
    | exact ⟨_, _, _, _, _, _, rfl⟩

theorem stepReader_frame (s : St) (f : Nat) : ∃ r rs out dels race,
    stepReader s f =
      { s with r := r, rStores := rs, output := out, deliveries := dels, race := race } := by
  fun_cases stepReader s f <;> exact ⟨_, _, _, _, _, rfl⟩

theorem stepWriter_r (s : St) (f : Nat) : (stepWriter s f).r = s.r := by
  obtain ⟨_, _, _, _, _, _, e⟩ := stepWriter_frame s f; rw [e]

theorem stepReader_w (s : St) (f : Nat) : (stepReader s f).w = s.w := by
  obtain ⟨_, _, _, _, _, e⟩ := stepReader_frame s f; rw [e]

theorem step_cases {P : St → Prop} {s : St} (c : Choice)
    (hw : P (stepWriter s c.fresh)) (hr : P (stepReader s c.fresh)) : P (step s c) := by
  fun_cases step s c
  · exact hw
  · exact hr

theorem run_invariant {P : St → Prop} (hstep : ∀ s c, P s → P (step s c)) {s : St} (h : P s)
    (sched : List Choice) : P (run s sched) := by
  induction sched generalizing s with
  | nil => exact h
  | cons c cs ih => exact ih (hstep s c h)

theorem run_n (s : St) (sched : List Choice) : (run s sched).n = s.n := by
  refine run_invariant (P := fun s' => s'.n = s.n)
    (fun s' c h => step_cases (P := fun t => t.n = s.n) c ?_ ?_) rfl sched
  · obtain ⟨_, _, _, _, _, _, e⟩ := stepWriter_frame s' c.fresh
    rw [e]
    exact h
  · obtain ⟨_, _, _, _, _, e⟩ := stepReader_frame s' c.fresh
    rw [e]
    exact h

/-- Shape of the writer thread.  `cons` is the reader's consumed count; the current write position
is `w.committed + staged.length`.  `hb` bounds the bytes still to store by the consumed count the
writer goes by: with it each store passes the race check of `stepWriter` and, that count being
behind the true one (`Inv.seenW`, `hsn`), keeps `Inv.occ`.  `hc`, the same bound by the true count,
is only carried along.  A `commit` is `writing []`: only its release store is left; `inTx []` is an
open transaction between two calls. -/
inductive WPhase (n : Nat) (w : Writer) (staged : List Nat) (cons : Nat) : Prop
  | idle (hp : w.pendingCall = none) (ha : w.acts = []) (htx : w.tx = none) (hst : staged = [])
      (hwf : wfCalls false w.calls = true)
  | loadWrite (d : List Nat) (hp : w.pendingCall = some (.write d)) (ha : w.acts = [.loadAcq])
      (htx : w.tx = none) (hst : staged = []) (hwf : wfCalls false w.calls = true)
  | loadBegin (hp : w.pendingCall = some .begin_) (ha : w.acts = [.loadAcq])
      (htx : w.tx = none) (hst : staged = []) (hwf : wfCalls true w.calls = true)
  | amendPending (d : List Nat) (sn : Nat) (hp : w.pendingCall = some (.amend d)) (ha : w.acts = [])
      (htx : w.tx = some (sn, w.committed + staged.length)) (hsn : sn ≤ cons)
      (hwf : wfCalls true w.calls = true)
  | writing (rest : List Nat) (hp : w.pendingCall = none) (htx : w.tx = none)
      (ha : w.acts = wActs (w.committed + staged.length) rest ++
        [.storeRel (w.committed + staged.length + rest.length)])
      (hb : rest.length ≤ w.seenConsumed + (n - 1) - (w.committed + staged.length))
      (hc : w.committed + staged.length + rest.length ≤ cons + (n - 1))
      (hwf : wfCalls false w.calls = true)
  | inTx (rest : List Nat) (sn : Nat) (hp : w.pendingCall = none)
      (htx : w.tx = some (sn, w.committed + staged.length + rest.length))
      (ha : w.acts = wActs (w.committed + staged.length) rest)
      (hb : rest.length ≤ sn + (n - 1) - (w.committed + staged.length))
      (hc : w.committed + staged.length + rest.length ≤ cons + (n - 1))
      (hsn : sn ≤ cons) (hwf : wfCalls true w.calls = true)

theorem WPhase.mono {n w staged c c'} (h : WPhase n w staged c) (hc' : c ≤ c') :
    WPhase n w staged c' := by
  cases h with
  | idle hp ha htx hst hwf => exact .idle hp ha htx hst hwf
  | loadWrite d hp ha htx hst hwf => exact .loadWrite d hp ha htx hst hwf
  | loadBegin hp ha htx hst hwf => exact .loadBegin hp ha htx hst hwf
  | amendPending d sn hp ha htx hsn hwf => exact .amendPending d sn hp ha htx (by omega) hwf
  | writing rest hp htx ha hb hc hwf => exact .writing rest hp htx ha hb (by omega) hwf
  | inTx rest sn hp htx ha hb hc hsn hwf =>
    exact .inTx rest sn hp htx ha hb (by omega) (by omega) hwf

/-- Shape of the reader thread.  `cb` are the committed bytes (`cb.length` is the writer's
committed count). -/
inductive RPhase (r : Reader) (cb : List Nat) : Prop
  | idle (hp : r.pendingCall = none) (ha : r.acts = [])
  | load (c : RCall) (hp : r.pendingCall = some c) (ha : r.acts = [.loadAcq]) (hg : r.got = [])
  | reading (m : Nat) (tail : List Act) (hp : r.pendingCall = none)
      (ha : r.acts = rActs (r.consumed + r.got.length) m ++ tail)
      (ht : tail = [.deliver, .storeRel (r.consumed + r.got.length + m)] ∨ tail = [.discard])
      (hb : m ≤ r.seenCommitted - (r.consumed + r.got.length))
      (hc : r.consumed + r.got.length + m ≤ cb.length)
      (hg : r.got = (cb.drop r.consumed).take r.got.length)
  | storing (c : Nat) (hp : r.pendingCall = none) (ha : r.acts = [.storeRel c])
      (h1 : r.consumed ≤ c) (h2 : c ≤ cb.length)

theorem RPhase.append {r cb} (h : RPhase r cb) (x : List Nat) : RPhase r (cb ++ x) := by
  cases h with
  | idle hp ha => exact .idle hp ha
  | load c hp ha hg => exact .load c hp ha hg
  | reading m tail hp ha ht hb hc hg =>
    refine .reading m tail hp ha ht hb (by simp; omega) ?_
    rw [take_drop_append x (by omega)]; exact hg
  | storing c hp ha h1 h2 => exact .storing c hp ha h1 (by simp; omega)

/-- The global invariant.  Counts: nothing a thread has seen of the peer's count, and no store in
the peer's list, is ahead of that count (`seenC`, `seenW`, `wSt`, `rSt`); the writer, staged bytes
included, is less than a lap ahead of the reader (`occ`).  Contents: every position from the
consumed count up to the write position sits in its cell with its byte (`cellsOk`), and every
delivery was a stretch of the committed bytes (`dels`). -/
structure Inv (s : St) : Prop where
  npos : 0 < s.n
  cellsLen : s.cells.length = s.n
  cbLen : s.committedBytes.length = s.w.committed
  wSt : ∀ x ∈ s.wStores, x ≤ s.w.committed
  rSt : ∀ x ∈ s.rStores, x ≤ s.r.consumed
  consLe : s.r.consumed ≤ s.w.committed
  seenC : s.r.seenCommitted ≤ s.w.committed
  seenW : s.w.seenConsumed ≤ s.r.consumed
  occ : s.w.committed + s.stagedBytes.length ≤ s.r.consumed + (s.n - 1)
  wph : WPhase s.n s.w s.stagedBytes s.r.consumed
  rph : RPhase s.r s.committedBytes
  cellsOk : ∀ p, s.r.consumed ≤ p → p < s.w.committed + s.stagedBytes.length →
    s.cells.getD (p % s.n) (0, 0) = (p, (s.committedBytes ++ s.stagedBytes).getD p 0)
  dels : ∀ d ∈ s.deliveries, d.1 + d.2.length ≤ s.committedBytes.length ∧
    d.2 = (s.committedBytes.drop d.1).take d.2.length
  noRace : s.race = false

theorem Inv.init {n : Nat} (hn : 0 < n) {wcalls : List WCall} (rcalls : List RCall)
    (hw : wfCalls false wcalls = true) : Inv (init n wcalls rcalls) where
  npos := hn
  cellsLen := by simp [RingRA.init]
  cbLen := rfl
  wSt := by simp [RingRA.init]
  rSt := by simp [RingRA.init]
  consLe := Nat.le_refl _
  seenC := Nat.le_refl _
  seenW := Nat.le_refl _
  occ := by simp [RingRA.init]
  wph := .idle rfl rfl rfl rfl hw
  rph := .idle rfl rfl
  cellsOk := by intro p _ h; simp [RingRA.init] at h
  dels := by simp [RingRA.init]
  noRace := rfl

theorem not_race {r : Bool} {p : Prop} [Decidable p] (hr : r = false) (hp : p) :
    (r || !decide p) = false := by
  simp [hr, hp]

theorem add_length_concat (c : Nat) (l : List Nat) (b : Nat) :
    c + (l ++ [b]).length = c + l.length + 1 := by
  rw [List.length_append, Nat.add_assoc]; rfl

/-- The writer stores a byte at its write position, a free cell by the consumed count `seen` it
goes by. -/
theorem Inv.bufWrite {s : St} (h : Inv s) (f : Nat) {b : Nat} {rest : List Act}
    (ha : s.w.acts = .bufWrite (s.w.committed + s.stagedBytes.length) b :: rest)
    {seen : Nat} (hs : s.w.tx.elim s.w.seenConsumed (·.1) = seen) (hseen : seen ≤ s.r.consumed)
    (hlt : s.w.committed + s.stagedBytes.length < seen + (s.n - 1))
    (hw : WPhase s.n { s.w with acts := rest } (s.stagedBytes ++ [b]) s.r.consumed) :
    Inv (stepWriter s f) := by
  rw [stepWriter_bufWrite f ha, hs]
  have hfit : s.w.committed + s.stagedBytes.length + 1 ≤ s.r.consumed + (s.n - 1) :=
    Nat.le_trans hlt (Nat.add_le_add_right hseen _)
  have hcell : s.w.committed + s.stagedBytes.length < s.r.consumed + s.n :=
    Nat.lt_of_lt_of_le hfit (Nat.add_le_add_left (Nat.sub_le _ _) _)
  refine { h with
    cellsLen := by rw [List.length_set]; exact h.cellsLen
    occ := Nat.le_trans (Nat.le_of_eq (add_length_concat _ _ _)) hfit
    wph := hw
    rph := h.rph
    cellsOk := ?_
    noRace := not_race h.noRace
      ⟨Nat.lt_of_lt_of_le hlt (Nat.add_le_add_left (Nat.sub_le _ _) _), Nat.le_add_right _ _⟩ }
  show ∀ p, s.r.consumed ≤ p → p < s.w.committed + (s.stagedBytes ++ [b]).length →
    (s.cells.set _ _).getD (p % s.n) (0, 0) =
      (p, (s.committedBytes ++ (s.stagedBytes ++ [b])).getD p 0)
  intro p h1 h2
  have hlen :
      (s.committedBytes ++ s.stagedBytes).length = s.w.committed + s.stagedBytes.length := by
    rw [List.length_append, h.cbLen]
  rw [add_length_concat] at h2
  rw [← List.append_assoc]
  by_cases hpq : p = s.w.committed + s.stagedBytes.length
  · subst hpq
    rw [getD_set_self (by rw [h.cellsLen]; exact Nat.mod_lt _ h.npos), ← hlen, getD_append_length]
  · have hlt' : p < s.w.committed + s.stagedBytes.length := by omega
    rw [getD_set_ne' (Ne.symm (mod_ne_of_lt_of_lt_add hlt' (by omega))), h.cellsOk p h1 hlt',
      getD_append_lt (l := s.committedBytes ++ s.stagedBytes) (x := [b]) (by omega)]

theorem Inv.publish {s : St} (h : Inv s) (f : Nat) {rest : List Act}
    (ha : s.w.acts = .storeRel (s.w.committed + s.stagedBytes.length) :: rest)
    (hw : WPhase s.n { s.w with acts := rest, committed := s.w.committed + s.stagedBytes.length } []
      s.r.consumed) :
    Inv (stepWriter s f) := by
  rw [stepWriter_storeRel f ha]
  exact { h with
    cbLen := by simp [h.cbLen]
    wSt := by
      intro x hx
      rcases List.mem_append.1 hx with hx | hx
      · exact Nat.le_trans (h.wSt x hx) (Nat.le_add_right _ _)
      · exact Nat.le_of_eq (List.mem_singleton.1 hx)
    consLe := Nat.le_trans h.consLe (Nat.le_add_right _ _)
    seenC := Nat.le_trans h.seenC (Nat.le_add_right _ _)
    occ := h.occ
    wph := hw
    rph := h.rph.append _
    cellsOk := by
      intro p h1 h2
      simp only [List.length_nil, Nat.add_zero, List.append_nil] at h2 ⊢
      exact h.cellsOk p h1 h2
    dels := by
      intro d hd
      have := h.dels d hd
      refine ⟨Nat.le_trans this.1 (by simp), ?_⟩
      rw [take_drop_append _ this.1]; exact this.2 }

theorem Inv.stepWriter {s : St} (h : Inv s) (f : Nat) : Inv (stepWriter s f) := by
  have hocc := h.occ
  cases h.wph with
  | idle hp ha htx hst hwf =>
    rw [stepWriter_nil_none f ha hp]
    cases hc : s.w.calls with
    | nil => rw [wStart_nil hc]; exact h
    | cons c rest =>
      rw [hc] at hwf
      cases c with
      | write d => rw [wStart_write hc]; exact { h with wph := .loadWrite d rfl rfl htx hst hwf }
      | begin_ => rw [wStart_begin hc]; exact { h with wph := .loadBegin rfl rfl htx hst hwf }
      | amend d => cases hwf
      | commit => cases hwf
  | loadWrite d hp ha htx hst hwf =>
    rw [stepWriter_load f ha, wExpand_write (w := wLoad s f []) hp]
    have hseen := getD_le_of_all_le h.rSt (pick s.w.view f s.rStores.length)
    rw [hst] at hocc
    split
    · rename_i hsp
      rw [wSpace_eq (Nat.le_trans hseen h.consLe)] at hsp
      refine { h with seenW := hseen, wph := .writing d rfl htx ?_ ?_ ?_ hwf }
      · simp [hst, byteActs_eq]
      · rw [hst]; exact hsp
      · rw [hst]; exact add_le_of_le_sub_of_le hsp (Nat.add_le_add_right hseen _) hocc
    · exact { h with seenW := hseen, wph := .idle rfl rfl htx hst hwf }
  | loadBegin hp ha htx hst hwf =>
    rw [stepWriter_load f ha, wExpand_begin (w := wLoad s f []) hp]
    have hseen := getD_le_of_all_le h.rSt (pick s.w.view f s.rStores.length)
    exact { h with
      seenW := hseen
      wph := .inTx [] _ rfl (by rw [hst]; rfl) rfl (Nat.zero_le _) hocc hseen hwf }
  | amendPending d sn hp ha htx hsn hwf =>
    rw [stepWriter_nil_some f ha hp, wExpand_amend hp htx]
    split
    · rename_i hsp
      rw [wSpace_eq (Nat.le_trans hsn (Nat.le_trans h.consLe (Nat.le_add_right _ _)))] at hsp
      have hc := add_le_of_le_sub_of_le hsp (Nat.add_le_add_right hsn _) hocc
      exact { h with wph := .inTx d sn rfl rfl (byteActs_eq _ _) hsp hc hsn hwf }
    · exact { h with wph := .inTx [] sn rfl htx rfl (Nat.zero_le _) hocc hsn hwf }
  | writing rest hp htx ha hb hc hwf =>
    cases rest with
    | nil =>
      simp only [wActs, List.nil_append, List.length_nil, Nat.add_zero] at ha
      exact h.publish f ha (.idle hp rfl htx rfl hwf)
    | cons b bs =>
      simp only [wActs, List.cons_append, List.length_cons] at ha hb hc
      obtain ⟨hb', hlt⟩ := le_sub_succ hb
      refine h.bufWrite f ha (by rw [htx]; rfl) h.seenW hlt (.writing bs hp htx ?_ ?_ ?_ hwf)
      · rw [add_length_concat, Nat.add_assoc _ 1, Nat.add_comm 1]
      · rw [add_length_concat]; exact hb'
      · rw [add_length_concat, Nat.add_assoc _ 1, Nat.add_comm 1]; exact hc
  | inTx rest sn hp htx ha hb hc hsn hwf =>
    cases rest with
    | nil =>
      simp only [wActs, List.length_nil, Nat.add_zero] at ha htx
      rw [stepWriter_nil_none f ha hp]
      cases hcl : s.w.calls with
      | nil => rw [wStart_nil hcl]; exact h
      | cons c cs =>
        rw [hcl] at hwf
        cases c with
        | write d => cases hwf
        | begin_ => cases hwf
        | amend d =>
          rw [wStart_amend hcl htx]
          exact { h with wph := .amendPending d sn rfl rfl htx hsn hwf }
        | commit =>
          rw [wStart_commit hcl htx]
          exact { h with wph := .writing [] rfl rfl rfl (Nat.zero_le _) hocc hwf }
    | cons b bs =>
      simp only [wActs, List.length_cons] at ha hb hc htx
      obtain ⟨hb', hlt⟩ := le_sub_succ hb
      refine h.bufWrite f ha (by rw [htx]; rfl) hsn hlt (.inTx bs sn hp ?_ ?_ ?_ ?_ hsn hwf)
      · rw [add_length_concat, Nat.add_assoc _ 1, Nat.add_comm 1]; exact htx
      · rw [add_length_concat]
      · rw [add_length_concat]; exact hb'
      · rw [add_length_concat, Nat.add_assoc _ 1, Nat.add_comm 1]; exact hc

theorem RPhase.rExpand {r : Reader} {cb : List Nat} {c : RCall} (hp : r.pendingCall = some c)
    (hg : r.got = []) (hs : r.seenCommitted ≤ cb.length) (hc : r.consumed ≤ cb.length) :
    RPhase (rExpand r) cb := by
  have hend : ∀ {k}, k ≤ r.seenCommitted - r.consumed → r.consumed + k ≤ cb.length :=
    fun hk => add_le_of_le_sub_of_le hk hs hc
  -- `read` and `peek` granted: the same accesses, then `tail`
  have hread : ∀ {k tail}, tail = [.deliver, .storeRel (r.consumed + k)] ∨ tail = [.discard] →
      k ≤ r.seenCommitted - r.consumed →
      RPhase { r with pendingCall := none, acts := readActs r.consumed k ++ tail } cb := by
    intro k tail ht hk
    refine .reading k tail rfl ?_ ?_ ?_ ?_ ?_
    · simp [hg, readActs_eq]
    · simpa [hg] using ht
    · simp only [hg, List.length_nil, Nat.add_zero]; exact hk
    · simp only [hg, List.length_nil, Nat.add_zero]; exact hend hk
    · simp [hg]
  cases c with
  | read k =>
    rw [rExpand_read hp]
    split
    next hk => exact hread (.inl rfl) hk.1
    next => exact .idle rfl rfl
  | peek k =>
    rw [rExpand_peek hp]
    split
    next hk => exact hread (.inr rfl) hk
    next => exact .idle rfl rfl
  | skip k =>
    rw [rExpand_skip hp]
    split
    next hk => exact .storing _ rfl rfl (Nat.le_add_right _ _) (hend hk)
    next => exact .idle rfl rfl

theorem Inv.cell_committed {s : St} (h : Inv s) {p : Nat} (h1 : s.r.consumed ≤ p)
    (h2 : p < s.w.committed) :
    s.cells.getD (p % s.n) (0, 0) = (p, s.committedBytes.getD p 0) := by
  rw [h.cellsOk p h1 (Nat.lt_of_lt_of_le h2 (Nat.le_add_right _ _)), getD_append_lt (h.cbLen ▸ h2)]

/-- The reader's release store publishes a consumed count: the writer's bounds only get looser. -/
theorem Inv.consume {s : St} (h : Inv s) (f : Nat) {c : Nat} {rest : List Act}
    (ha : s.r.acts = .storeRel c :: rest) (h1 : s.r.consumed ≤ c) (h2 : c ≤ s.committedBytes.length)
    (hr : RPhase { s.r with acts := rest, consumed := c } s.committedBytes) :
    Inv (stepReader s f) := by
  rw [stepReader_storeRel f ha]
  exact { h with
    rSt := by
      intro x hx
      rcases List.mem_append.1 hx with hx | hx
      · exact Nat.le_trans (h.rSt x hx) h1
      · exact Nat.le_of_eq (List.mem_singleton.1 hx)
    consLe := h.cbLen ▸ h2
    seenW := Nat.le_trans h.seenW h1
    occ := Nat.le_trans h.occ (Nat.add_le_add_right h1 _)
    wph := h.wph.mono h1
    rph := hr
    cellsOk := fun p hp1 hp2 => h.cellsOk p (Nat.le_trans h1 hp1) hp2 }

theorem Inv.stepReader {s : St} (h : Inv s) (f : Nat) : Inv (stepReader s f) := by
  have hcons := h.consLe
  have hcb := h.cbLen
  cases h.rph with
  | idle hp ha =>
    rw [stepReader_nil f ha]
    cases hc : s.r.calls with
    | nil =>
      rw [rStart_nil hc]
      exact h
    | cons c rest =>
      rw [rStart_cons hc]
      exact { h with rph := .load c rfl rfl rfl }
  | load c hp ha hg =>
    rw [stepReader_load f ha, rExpand_eq]
    have hseen := getD_le_of_all_le h.wSt (pick s.r.view f s.wStores.length)
    refine { h with seenC := hseen, rph := ?_ }
    rw [← rExpand_eq]
    exact .rExpand hp hg (hcb ▸ hseen) (hcb ▸ hcons)
  | reading m tail hp ha ht hb hc hg =>
    cases m with
    | zero =>
      simp only [rActs, List.nil_append, Nat.add_zero] at ha ht hc
      have hdels : ∀ d ∈ s.deliveries ++ [(s.r.consumed, s.r.got)],
          d.1 + d.2.length ≤ s.committedBytes.length ∧
          d.2 = (s.committedBytes.drop d.1).take d.2.length := by
        intro d hd
        rcases List.mem_append.1 hd with hd | hd
        · exact h.dels d hd
        · rw [List.mem_singleton.1 hd]; exact ⟨hc, hg⟩
      rcases ht with ht | ht
      · rw [ht] at ha
        rw [stepReader_deliver f ha]
        exact { h with rph := .storing _ hp rfl (Nat.le_add_right _ _) hc, dels := hdels }
      · rw [ht] at ha
        rw [stepReader_discard f ha]
        exact { h with rph := .idle hp rfl, dels := hdels }
    | succ m =>
      simp only [rActs, List.cons_append] at ha
      rw [stepReader_bufRead f ha]
      obtain ⟨hb', hlt⟩ := le_sub_succ hb
      have hltc : s.r.consumed + s.r.got.length < s.w.committed := Nat.lt_of_lt_of_le hlt h.seenC
      refine { h with
        rph := .reading m tail hp ?_ ?_ ?_ ?_ ?_
        noRace := not_race h.noRace ⟨hlt, Nat.le_add_right _ _⟩ }
      · rw [add_length_concat]
      · rw [add_length_concat, Nat.add_assoc _ 1, Nat.add_comm 1]; exact ht
      · rw [add_length_concat]; exact hb'
      · rw [add_length_concat, Nat.add_assoc _ 1, Nat.add_comm 1]; exact hc
      · dsimp only
        rw [h.cell_committed (Nat.le_add_right _ _) hltc, List.length_append, List.length_singleton,
          take_drop_succ (hcb ▸ hltc), ← hg]
  | storing c hp ha h1 h2 =>
    exact h.consume f ha h1 h2 (.idle hp rfl)

theorem Inv.step {s : St} (h : Inv s) (c : Choice) : Inv (step s c) :=
  step_cases c (h.stepWriter _) (h.stepReader _)

theorem Inv.reachable {n : Nat} (hn : 0 < n) {wcalls : List WCall} (rcalls : List RCall)
    (hw : wfCalls false wcalls = true) (sched : List Choice) :
    Inv (RingRA.run (RingRA.init n wcalls rcalls) sched) :=
  run_invariant (fun _ c h => h.step c) (Inv.init hn rcalls hw) sched

def RCall.isSkip : RCall → Bool
  | .skip _ => true
  | _ => false

/-- The position up to which bytes have been handed to the caller by `read`s, from the actions left
and the consumed count: the count about to be published if the release store is next, the consumed
count otherwise. -/
def outEndA : List Act → Nat → Nat
  | .storeRel c :: _, _ => c
  | _, consumed => consumed

def outEnd (r : Reader) : Nat := outEndA r.acts r.consumed

theorem outEndA_reading (p m c : Nat) {tail : List Act} {e : Nat}
    (ht : tail = [.deliver, .storeRel e] ∨ tail = [.discard]) :
    outEndA (rActs p m ++ tail) c = c := by
  cases m with
  | succ m => rfl
  | zero =>
    rcases ht with ht | ht <;>
      subst ht <;>
      rfl

structure OutInv (s : St) : Prop where
  calls : ∀ c ∈ s.r.calls, c.isSkip = false
  pend : ∀ c, s.r.pendingCall = some c → c.isSkip = false
  out : s.output = s.committedBytes.take (outEnd s.r)

theorem Inv.outEnd_le {s : St} (h : Inv s) : outEnd s.r ≤ s.committedBytes.length := by
  have hc : s.r.consumed ≤ s.committedBytes.length := h.cbLen ▸ h.consLe
  unfold outEnd
  cases h.rph with
  | idle hp ha => rw [ha]; exact hc
  | load c hp ha hg => rw [ha]; exact hc
  | reading m tail hp ha ht => rw [ha, outEndA_reading _ _ _ ht]; exact hc
  | storing c hp ha h1 h2 => rw [ha]; exact h2

theorem OutInv.stepWriter {s : St} (h : Inv s) (o : OutInv s) (f : Nat) :
    OutInv (stepWriter s f) := by
  obtain ⟨_, _, _, x, _, _, e⟩ := stepWriter_frame s f
  rw [e]
  refine ⟨o.calls, o.pend, ?_⟩
  rw [List.take_append_of_le_length h.outEnd_le]
  exact o.out

theorem rExpand_outEnd (r : Reader) (ha : r.acts = [])
    (hns : ∀ c, r.pendingCall = some c → c.isSkip = false) (c : Nat) :
    outEndA (rExpand r).acts c = c := by
  cases hp : r.pendingCall with
  | none =>
    rw [rExpand_none hp, ha]
    rfl
  | some call =>
    cases call with
    | read k =>
      rw [rExpand_read hp, readActs_eq]
      split
      · exact outEndA_reading _ _ _ (.inl rfl)
      · rfl
    | peek k =>
      rw [rExpand_peek hp, readActs_eq]
      split
      · exact outEndA_reading _ _ _ (e := 0) (.inr rfl)
      · rfl
    | skip k => cases hns _ hp

theorem OutInv.stepReader {s : St} (h : Inv s) (o : OutInv s) (f : Nat) :
    OutInv (stepReader s f) := by
  have hout := o.out
  unfold outEnd at hout
  cases h.rph with
  | idle hp ha =>
    rw [stepReader_nil f ha]
    rw [ha] at hout
    cases hc : s.r.calls with
    | nil =>
      rw [rStart_nil hc]
      exact o
    | cons c rest =>
      rw [rStart_cons hc]
      exact ⟨fun c' hc' => o.calls c' (hc ▸ List.mem_cons_of_mem _ hc'),
        fun c' h' => Option.some.inj h' ▸ o.calls c (hc ▸ List.mem_cons_self), hout⟩
  | load c hp ha hg =>
    rw [stepReader_load f ha, rExpand_eq]
    rw [ha] at hout
    refine ⟨o.calls, nofun, ?_⟩
    show s.output = s.committedBytes.take (outEndA (rExpand (rLoad s f [])).acts s.r.consumed)
    rw [rExpand_outEnd (rLoad s f []) rfl o.pend]; exact hout
  | reading m tail hp ha ht hb hc hg =>
    rw [ha, outEndA_reading _ _ _ ht] at hout
    cases m with
    | zero =>
      simp only [rActs, List.nil_append, Nat.add_zero] at ha ht hc
      rcases ht with ht | ht
      · rw [ht] at ha
        rw [stepReader_deliver f ha]
        refine ⟨o.calls, o.pend, ?_⟩
        show s.output ++ s.r.got = s.committedBytes.take (s.r.consumed + s.r.got.length)
        rw [List.take_add, hout]
        conv => lhs; rw [hg]
      · rw [ht] at ha
        rw [stepReader_discard f ha]
        exact ⟨o.calls, o.pend, hout⟩
    | succ m =>
      simp only [rActs, List.cons_append] at ha
      rw [stepReader_bufRead f ha]
      refine ⟨o.calls, o.pend, ?_⟩
      show s.output = s.committedBytes.take
        (outEndA (rActs (s.r.consumed + s.r.got.length + 1) m ++ tail) s.r.consumed)
      rw [outEndA_reading _ _ _ ht]; exact hout
  | storing c hp ha h1 h2 =>
    rw [stepReader_storeRel f ha]
    rw [ha] at hout
    exact ⟨o.calls, o.pend, hout⟩

theorem OutInv.init (n : Nat) (wcalls : List WCall) {rcalls : List RCall}
    (hr : ∀ c ∈ rcalls, c.isSkip = false) : OutInv (init n wcalls rcalls) :=
  ⟨hr, (by intro c hc; cases hc), rfl⟩

theorem output_eq_take {n : Nat} (hn : 0 < n) {wcalls : List WCall} {rcalls : List RCall}
    (hw : wfCalls false wcalls = true) (hr : ∀ c ∈ rcalls, c.isSkip = false) (sched : List Choice) :
    (run (init n wcalls rcalls) sched).output =
      (run (init n wcalls rcalls) sched).committedBytes.take
        (outEnd (run (init n wcalls rcalls) sched).r) :=
  (run_invariant (P := fun s => Inv s ∧ OutInv s)
    (fun _ c ⟨h, o⟩ => ⟨h.step c, step_cases c (o.stepWriter h _) (o.stepReader h _)⟩)
    ⟨Inv.init hn rcalls hw, OutInv.init n wcalls hr⟩ sched).2.out

/-- Steps the call in flight owes beyond the actions already listed: those its expansion will add,
and for `amend`, which expands in a step of its own, that step. -/
def wPend : Option WCall → Nat
  | some (.write d) => d.length + 1
  | some (.amend d) => d.length + 1
  | _ => 0

/-- `read` owes its accesses, the delivery and the store; `peek` its accesses and the discard;
`skip` the store. -/
def rPend : Option RCall → Nat
  | some (.read k) => k + 2
  | some (.peek k) => k + 1
  | some (.skip _) => 1
  | none => 0

/-- A call in flight is either waiting for its acquire load, or is an `amend` about to expand.
Wait-freedom is claimed for any calls, not only `wfCalls`, so it cannot rest on `Inv` and `WPhase`;
this much of the writer's shape holds regardless and is all the measure needs. -/
def WShape (w : Writer) : Prop :=
  w.pendingCall = none ∨ w.acts = [.loadAcq] ∨ (w.acts = [] ∧ ∃ d, w.pendingCall = some (.amend d))

/-- Every call of the reader starts with the acquire load. -/
def RShape (r : Reader) : Prop := r.pendingCall = none ∨ r.acts = [.loadAcq]

def wFinished (w : Writer) : Prop := w.calls = [] ∧ w.acts = [] ∧ w.pendingCall = none

def rFinished (r : Reader) : Prop := r.calls = [] ∧ r.acts = [] ∧ r.pendingCall = none

theorem wExpand_acts_length (n : Nat) (w : Writer) :
    (wExpand n w).acts.length ≤ w.acts.length + wPend w.pendingCall := by
  fun_cases wExpand n w
  case case7 => exact Nat.le_add_right _ _  -- no `write`, `begin` or `amend` in flight
  case case4 hp _ _ _ _ =>
    simp [hp, wPend, byteActs_length]
    omega
  all_goals simp [‹w.pendingCall = _›, wPend, byteActs_length]

theorem wExpand_amend_acts_length (n : Nat) (w : Writer) {d : List Nat}
    (hp : w.pendingCall = some (.amend d)) : (wExpand n w).acts.length ≤ d.length := by
  unfold wExpand
  rw [hp]
  dsimp only
  split
  · split <;> simp [byteActs_length]
  · simp

theorem rExpand_acts_length (r : Reader) :
    (rExpand r).acts.length ≤ r.acts.length + rPend r.pendingCall := by
  fun_cases rExpand r
  case case7 => exact Nat.le_add_right _ _  -- no call in flight
  all_goals simp [‹r.pendingCall = _›, rPend, readActs_length]

/-- A measure that every step of thread `tid` lowers is used up by a long enough schedule of that
thread alone.  The steps may also leave it at 0: a finished thread idles, so the schedule may be
longer than the work. -/
theorem run_alone {μ : St → Nat} {P : St → Prop} {tid : Tid}
    (hstep : ∀ s c, c.tid = tid → P s → P (step s c) ∧ (μ (step s c) < μ s ∨ μ (step s c) = 0))
    (sched : List Choice) (hs : ∀ c ∈ sched, c.tid = tid) {s : St} (h : P s)
    (hμ : μ s ≤ sched.length) :
    P (run s sched) ∧ μ (run s sched) = 0 := by
  induction sched generalizing s with
  | nil => exact ⟨h, Nat.le_zero.1 hμ⟩
  | cons c cs ih =>
    obtain ⟨hP, hlt⟩ := hstep s c (hs c List.mem_cons_self) h
    have hμ' : μ (step s c) ≤ cs.length := by
      rw [List.length_cons] at hμ
      omega
    exact ih (fun c' hc' => hs c' (List.mem_cons_of_mem _ hc')) hP hμ'

theorem tid_of_mem_solo {tid : Tid} {fresh : Nat → Nat} {K : Nat} {c : Choice}
    (hc : c ∈ (List.range K).map (fun i => (⟨tid, fresh i⟩ : Choice))) : c.tid = tid := by
  obtain ⟨i, _, rfl⟩ := List.mem_map.1 hc; rfl

/-- A bound on the steps the writer still needs, exact when every request is granted. -/
def wMeasure (w : Writer) : Nat := wWork w.calls + w.acts.length + wPend w.pendingCall

/-- shape and measure in one statement: the form of `run_alone`'s hypothesis -/
theorem wStart_alone {w : Writer} (ha : w.acts = []) (hp : w.pendingCall = none) :
    WShape (wStart w) ∧ (wMeasure (wStart w) < wMeasure w ∨ wMeasure (wStart w) = 0) := by
  unfold wMeasure
  fun_cases wStart w <;> rw [‹w.calls = _›, ha, hp]
  · exact ⟨.inl hp, .inr rfl⟩
  · exact ⟨.inr (.inl rfl), .inl (by simp [wPend, wWork]; omega)⟩
  · exact ⟨.inr (.inl rfl), .inl (by simp [wPend, wWork]; omega)⟩
  · exact ⟨.inl rfl, .inl (by simp [wPend, wWork])⟩  -- misuse, ignored: only the call is dropped
  · exact ⟨.inr (.inr ⟨rfl, _, rfl⟩), .inl (by simp [wPend, wWork]; omega)⟩
  · exact ⟨.inl rfl, .inl (by simp [wPend, wWork])⟩  -- misuse, ignored: only the call is dropped
  · exact ⟨.inl rfl, .inl (by simp [wPend, wWork]; omega)⟩

theorem WShape.step {s : St} (h : WShape s.w) (f : Nat) :
    WShape (stepWriter s f).w ∧
      (wMeasure (stepWriter s f).w < wMeasure s.w ∨ wMeasure (stepWriter s f).w = 0) := by
  cases ha : s.w.acts with
  | nil =>
    rcases h with hp | h' | ⟨_, d, hp⟩
    · rw [stepWriter_nil_none f ha hp]
      exact wStart_alone ha hp
    · rw [ha] at h'; cases h'
    · have := wExpand_amend_acts_length s.n s.w hp
      unfold wMeasure
      rw [stepWriter_nil_some f ha hp, wExpand_calls, wExpand_pendingCall, hp, ha]
      exact ⟨.inl (wExpand_pendingCall _ _), .inl (by simp only [wPend, List.length_nil]; omega)⟩
  | cons a rest =>
    unfold wMeasure
    rw [ha]
    by_cases hl : a = .loadAcq
    · subst hl
      have := wExpand_acts_length s.n (wLoad s f rest)
      rw [stepWriter_load f ha, wExpand_calls, wExpand_pendingCall]
      refine ⟨.inl (wExpand_pendingCall _ _), .inl ?_⟩
      simp only [wPend, List.length_cons] at this ⊢
      omega
    · -- in the middle of its accesses the writer has no call in flight
      have hp : s.w.pendingCall = none := by
        rcases h with hp | h' | ⟨h', _⟩
        · exact hp
        · rw [ha] at h'
          cases h'
          exact absurd rfl hl
        · rw [ha] at h'; cases h'
      have e : (stepWriter s f).w.acts = rest ∧ (stepWriter s f).w.calls = s.w.calls ∧
          (stepWriter s f).w.pendingCall = s.w.pendingCall := by
        cases a <;> simp [stepWriter, ha] at hl ⊢
      rw [e.1, e.2.1, e.2.2, hp]
      exact ⟨.inl (e.2.2.trans hp), .inl (by simp only [List.length_cons]; omega)⟩

theorem wFinished_of_measure_zero {w : Writer} (h : WShape w) (h0 : wMeasure w = 0) :
    wFinished w := by
  unfold wMeasure at h0
  have ha : w.acts = [] := List.eq_nil_of_length_eq_zero (by omega)
  refine ⟨?_, ha, ?_⟩
  · cases hc : w.calls with
    | nil => rfl
    | cons c cs =>
      rw [hc] at h0
      cases c <;>
        simp [wWork] at h0 <;>
        omega
  · rcases h with hp | h' | ⟨_, d, hp⟩
    · exact hp
    · rw [ha] at h'; cases h'
    · rw [hp] at h0; simp [wPend] at h0

theorem wMeasure_le (w : Writer) :
    wMeasure w ≤ wWork (w.pendingCall.toList ++ w.calls) + w.acts.length := by
  unfold wMeasure
  cases hp : w.pendingCall with
  | none => simp [wPend]
  | some c =>
    simp only [Option.toList_some, List.cons_append, List.nil_append]
    cases c <;>
      simp [wPend, wWork] <;>
      omega

theorem writer_wait_free {s : St} (h : WShape s.w) (sched : List Choice)
    (hs : ∀ c ∈ sched, c.tid = .writer)
    (hK : wWork (s.w.pendingCall.toList ++ s.w.calls) + s.w.acts.length ≤ sched.length) :
    wFinished (run s sched).w := by
  obtain ⟨hP, hμ⟩ := run_alone (μ := fun s => wMeasure s.w) (P := fun s => WShape s.w)
    (fun s c hc h => by
      rw [show step s c = stepWriter s c.fresh by unfold step; rw [hc]]
      exact h.step _)
    sched hs h (Nat.le_trans (wMeasure_le _) hK)
  exact wFinished_of_measure_zero hP hμ

def rMeasure (r : Reader) : Nat := rWork r.calls + r.acts.length + rPend r.pendingCall

theorem RShape.step {s : St} (h : RShape s.r) (f : Nat) :
    RShape (stepReader s f).r ∧
      (rMeasure (stepReader s f).r < rMeasure s.r ∨ rMeasure (stepReader s f).r = 0) := by
  unfold rMeasure
  cases ha : s.r.acts with
  | nil =>
    have hp : s.r.pendingCall = none := by
      rcases h with hp | h'
      · exact hp
      · rw [ha] at h'; cases h'
    rw [stepReader_nil f ha, hp]
    cases hcl : s.r.calls with
    | nil =>
      rw [rStart_nil hcl, hcl, ha, hp]
      exact ⟨.inl hp, .inr rfl⟩
    | cons c rest =>
      rw [rStart_cons hcl]
      exact ⟨.inr rfl, .inl (by
        cases c <;>
          simp [rPend, rWork] <;>
          omega)⟩
  | cons a rest =>
    by_cases hl : a = .loadAcq
    · subst hl
      have := rExpand_acts_length (rLoad s f rest)
      rw [stepReader_load f ha, rExpand_calls, rExpand_pendingCall]
      refine ⟨.inl (rExpand_pendingCall _), .inl ?_⟩
      simp only [rPend, List.length_cons] at this ⊢
      omega
    · have hp : s.r.pendingCall = none := by
        rcases h with hp | h'
        · exact hp
        · rw [ha] at h'
          cases h'
          exact absurd rfl hl
      have e : (stepReader s f).r.acts = rest ∧ (stepReader s f).r.calls = s.r.calls ∧
          (stepReader s f).r.pendingCall = s.r.pendingCall := by
        cases a <;> simp [stepReader, ha] at hl ⊢
      rw [e.1, e.2.1, e.2.2, hp]
      exact ⟨.inl (e.2.2.trans hp), .inl (by simp only [List.length_cons]; omega)⟩

theorem rFinished_of_measure_zero {r : Reader} (h0 : rMeasure r = 0) : rFinished r := by
  unfold rMeasure at h0
  have ha : r.acts = [] := List.eq_nil_of_length_eq_zero (by omega)
  refine ⟨?_, ha, ?_⟩
  · cases hc : r.calls with
    | nil => rfl
    | cons c cs =>
      rw [hc] at h0
      cases c <;>
        simp [rWork] at h0 <;>
        omega
  · cases hp : r.pendingCall with
    | none => rfl
    | some c =>
      rw [hp] at h0
      cases c <;>
        simp [rPend] at h0 <;>
        omega

theorem rMeasure_le (r : Reader) :
    rMeasure r ≤ rWork (r.pendingCall.toList ++ r.calls) + r.acts.length := by
  unfold rMeasure
  cases hp : r.pendingCall with
  | none => simp [rPend]
  | some c =>
    simp only [Option.toList_some, List.cons_append, List.nil_append]
    cases c <;>
      simp [rPend, rWork] <;>
      omega

theorem reader_wait_free {s : St} (h : RShape s.r) (sched : List Choice)
    (hs : ∀ c ∈ sched, c.tid = .reader)
    (hK : rWork (s.r.pendingCall.toList ++ s.r.calls) + s.r.acts.length ≤ sched.length) :
    rFinished (run s sched).r := by
  obtain ⟨_, hμ⟩ := run_alone (μ := fun s => rMeasure s.r) (P := fun s => RShape s.r)
    (fun s c hc h => by
      rw [show step s c = stepReader s c.fresh by unfold step; rw [hc]]
      exact h.step _)
    sched hs h (Nat.le_trans (rMeasure_le _) hK)
  exact rFinished_of_measure_zero hμ

theorem shape_reachable (n : Nat) (wcalls : List WCall) (rcalls : List RCall)
    (sched : List Choice) :
    WShape (run (init n wcalls rcalls) sched).w ∧ RShape (run (init n wcalls rcalls) sched).r :=
  run_invariant (P := fun s => WShape s.w ∧ RShape s.r)
    (fun s c ⟨hw, hr⟩ => step_cases (P := fun s => WShape s.w ∧ RShape s.r) c
      ⟨(hw.step _).1, by rw [stepWriter_r]; exact hr⟩
      ⟨by rw [stepReader_w]; exact hw, (hr.step _).1⟩)
    ⟨.inl rfl, .inl rfl⟩ sched

end Zix.RingRA

import ZixModel.Model.Ring
import ZixModel.Spec.Ring
/-! Lemmas for the C05 ring-buffer properties.  `readSpaceAt g a b` is the circular distance from
`a` to `b`, the write space being one too; `window` reads the circular buffer; each operation on a
well-formed ring is an equation with an explicit result. -/
namespace Zix.Ring

def Smeared (x s m : Nat) : Prop :=
  ∀ i, s.testBit i = true ↔ ∃ j, j < m ∧ x.testBit (i + j) = true

theorem smeared_init (x : Nat) : Smeared x x 1 := by
  intro i; simp [Nat.lt_one_iff]

theorem smeared_step {x s m : Nat} (h : Smeared x s m) :
    Smeared x (s ||| (s >>> m)) (m + m) := by
  intro i
  rw [Nat.testBit_or, Nat.testBit_shiftRight, Bool.or_eq_true, h i, h (m + i)]
  constructor
  · rintro (⟨j, hj, hb⟩ | ⟨j, hj, hb⟩)
    · exact ⟨j, by omega, hb⟩
    · exact ⟨m + j, by omega, by
        rw [← hb]
        congr 1
        omega⟩
  · rintro ⟨j, hj, hb⟩
    by_cases hjm : j < m
    · exact Or.inl ⟨j, hjm, hb⟩
    · exact Or.inr ⟨j - m, by omega, by
        rw [← hb]
        congr 1
        omega⟩

/-- the five smear steps of `nextPow2` -/
def smear (x : Nat) : Nat :=
  let s := x ||| (x >>> 1)
  let s := s ||| (s >>> 2)
  let s := s ||| (s >>> 4)
  let s := s ||| (s >>> 8)
  s ||| (s >>> 16)

theorem smeared_smear (x : Nat) : Smeared x (smear x) 32 :=
  smeared_step (smeared_step (smeared_step (smeared_step (smeared_step (smeared_init x)))))

theorem smear_eq {x k : Nat} (h1 : 2 ^ k ≤ x) (h2 : x < 2 ^ (k + 1)) (hk : k < 32) :
    smear x = 2 ^ (k + 1) - 1 := by
  apply Nat.eq_of_testBit_eq
  intro i
  rw [Nat.testBit_two_pow_sub_one, Bool.eq_iff_iff, smeared_smear x i, decide_eq_true_iff]
  constructor
  · rintro ⟨j, _, hb⟩
    have := Nat.lt_of_le_of_lt (Nat.ge_two_pow_of_testBit hb) h2
    exact Nat.lt_of_le_of_lt (Nat.le_add_right i j) ((Nat.pow_lt_pow_iff_right (by decide)).1 this)
  · intro hik
    refine ⟨k - i, by omega, ?_⟩
    rw [Nat.add_sub_cancel' (Nat.le_of_lt_succ hik)]
    exact Nat.testBit_of_two_pow_le_and_two_pow_add_one_gt h1 h2

theorem nextPow2_eq (s : Nat) (h1 : 1 ≤ s) (h2 : s < 2 ^ 32) :
    nextPow2 s = (smear (s - 1) + 1) % W32 := by
  have : (s + W32 - 1) % W32 = s - 1 := by unfold W32; omega
  unfold nextPow2 smear
  simp only [this]

theorem nextPow2_spec (s : Nat) (h1 : 1 ≤ s) (h2 : s ≤ 2 ^ 31) :
    ∃ k, k ≤ 31 ∧ nextPow2 s = 2 ^ k ∧ s ≤ 2 ^ k ∧ (k = 0 ∨ 2 ^ (k - 1) < s) := by
  rw [nextPow2_eq s h1 (by omega)]
  by_cases hs : s = 1
  · subst hs
    exact ⟨0, Nat.zero_le _, by decide, Nat.le_refl _, Or.inl rfl⟩
  · have hx : s - 1 ≠ 0 := by omega
    have hlo := Nat.log2_self_le hx
    have hhi := @Nat.lt_log2_self (s - 1)
    have hk : (s - 1).log2 < 31 := (Nat.log2_lt hx).2 (by omega)
    have hle : 2 ^ ((s - 1).log2 + 1) ≤ 2 ^ 31 := Nat.pow_le_pow_right (by decide) hk
    refine ⟨(s - 1).log2 + 1, hk, ?_, by omega, Or.inr (by rw [Nat.add_sub_cancel]; omega)⟩
    rw [smear_eq hlo hhi (by omega), Nat.sub_add_cancel (Nat.pow_pos (by decide)),
      Nat.mod_eq_of_lt (Nat.lt_of_le_of_lt hle (by decide))]

theorem nextPow2_pos (s : Nat) (h1 : 1 ≤ s) (h2 : s ≤ 2 ^ 31) : 0 < nextPow2 s := by
  obtain ⟨k, _, e, _, _⟩ := nextPow2_spec s h1 h2
  rw [e]; exact Nat.pow_pos (by decide)

theorem nextPow2_eq_zero_iff {s : Nat} (h : s < 2 ^ 32) :
    nextPow2 s = 0 ↔ s = 0 ∨ 2 ^ 31 < s := by
  constructor
  · intro h0
    by_cases hs : 1 ≤ s ∧ s ≤ 2 ^ 31
    · exact absurd h0 (Nat.ne_of_gt (nextPow2_pos s hs.1 hs.2))
    · omega
  · rintro (rfl | hb)
    · decide
    · rw [nextPow2_eq s (by omega) h,
        smear_eq (x := s - 1) (k := 31) (by omega) (by omega) (by omega)]
      decide

/-- `S = 2 ^ k` with `k ≤ 31`, the sizes `new` produces.  `WF.pow` is `P2 g.size` unfolded, so the
laws below are given `h.pow` for it. -/
def P2 (S : Nat) : Prop := ∃ k, k ≤ 31 ∧ S = 2 ^ k

theorem P2.pos {S : Nat} (h : P2 S) : 0 < S := by
  obtain ⟨k, _, rfl⟩ := h; exact Nat.pow_pos (by decide)

theorem P2.le {S : Nat} (h : P2 S) : S ≤ 2 ^ 31 := by
  obtain ⟨k, hk, rfl⟩ := h; exact Nat.pow_le_pow_right (by decide) hk

theorem P2.dvd {S : Nat} (h : P2 S) : S ∣ W32 := by
  obtain ⟨k, hk, rfl⟩ := h; exact Nat.pow_dvd_pow 2 (by omega)

theorem P2.le_w32 {S : Nat} (h : P2 S) : S ≤ W32 := Nat.le_of_dvd (by decide) h.dvd

/-- For a power-of-two size the reduction modulo `2^32` drops out: from here on distances are
arithmetic modulo `size`.  `r = g.size` is allowed: `writeSpaceAt_eq` measures from `w + 1`. -/
theorem readSpaceAt_mod (g : Ring) (hp : P2 g.size) {r : Nat} (hr : r ≤ g.size) (w : Nat) :
    readSpaceAt g r w = (w + g.size - r) % g.size := by
  obtain ⟨m, hm⟩ := hp.dvd
  have := hp.le_w32
  unfold readSpaceAt
  rw [Nat.mod_mod_of_dvd _ hp.dvd, ← Nat.add_mul_mod_self_left (w + g.size - r) g.size m, ← hm,
    show w + g.size - r + W32 = w + W32 - r + g.size by omega, Nat.add_mod_right]

theorem capacity_eq (g : Ring) (hp : P2 g.size) : capacity g = g.size - 1 := by
  have := hp.le; have := hp.pos
  unfold capacity W32; omega

theorem mod_add_mod_assoc (r n i S : Nat) : ((r + n) % S + i) % S = (r + (n + i)) % S := by
  rw [Nat.mod_add_mod, Nat.add_assoc]

/-! `readSpace`, the stale stretch `(g.r + W32 - tx.r) % W32 % g.size` of a transaction and
`writeSpaceAt` are all instances of `readSpaceAt`, so the laws below carry every head computation.
`readSpaceAt g` reads only `g.size`: for `{ g with r := … }` or `{ g with buf := … }` the laws are
used at `g`, and the two agree by unfolding. -/

theorem readSpaceAt_lt (g : Ring) (hp : P2 g.size) (r w : Nat) : readSpaceAt g r w < g.size :=
  Nat.mod_lt _ hp.pos

theorem readSpaceAt_self (g : Ring) (r : Nat) : readSpaceAt g r r = 0 := by
  unfold readSpaceAt
  rw [Nat.add_sub_cancel_left, Nat.mod_self, Nat.zero_mod]

theorem readSpaceAt_eq_of_add_mod (g : Ring) (hp : P2 g.size) {r k w : Nat} (hr : r ≤ g.size)
    (hk : k < g.size) (e : (r + k) % g.size = w) : readSpaceAt g r w = k := by
  rw [← e, readSpaceAt_mod g hp hr, Nat.add_sub_assoc hr, Nat.mod_add_mod,
    show r + k + (g.size - r) = k + g.size by omega, Nat.add_mod_right, Nat.mod_eq_of_lt hk]

theorem add_readSpaceAt_mod (g : Ring) (hp : P2 g.size) {r w : Nat} (hr : r < g.size)
    (hw : w < g.size) : (r + readSpaceAt g r w) % g.size = w := by
  rw [readSpaceAt_mod g hp (Nat.le_of_lt hr), Nat.add_mod_mod,
    show r + (w + g.size - r) = w + g.size by omega, Nat.add_mod_right, Nat.mod_eq_of_lt hw]

theorem readSpaceAt_trans (g : Ring) (hp : P2 g.size) {a b c : Nat} (ha : a < g.size)
    (hb : b < g.size) (hc : c < g.size) (h : readSpaceAt g a b + readSpaceAt g b c < g.size) :
    readSpaceAt g a c = readSpaceAt g a b + readSpaceAt g b c := by
  refine readSpaceAt_eq_of_add_mod g hp (Nat.le_of_lt ha) h ?_
  rw [← Nat.add_assoc, ← Nat.mod_add_mod, add_readSpaceAt_mod g hp ha hb,
    add_readSpaceAt_mod g hp hb hc]

theorem readSpaceAt_advance (g : Ring) (hp : P2 g.size) {r w k : Nat} (hr : r < g.size)
    (hw : w < g.size) (hk : k ≤ readSpaceAt g r w) :
    readSpaceAt g ((r + k) % g.size) w = readSpaceAt g r w - k := by
  refine readSpaceAt_eq_of_add_mod g hp (Nat.le_of_lt (Nat.mod_lt _ hp.pos))
    (Nat.lt_of_le_of_lt (Nat.sub_le _ _) (readSpaceAt_lt g hp r w)) ?_
  rw [Nat.mod_add_mod, Nat.add_assoc, Nat.add_sub_cancel' hk, add_readSpaceAt_mod g hp hr hw]

theorem writeSpaceAt_eq_readSpaceAt (g : Ring) (hp : P2 g.size) (r : Nat) {w : Nat}
    (hw : w < g.size) : writeSpaceAt g r w = readSpaceAt g (w + 1) r := by
  have := hp.le_w32
  unfold writeSpaceAt readSpaceAt
  rw [show r + W32 + W32 - w - 1 = r + W32 - (w + 1) + W32 by omega, Nat.add_mod_right]

theorem writeSpaceAt_eq (g : Ring) (hp : P2 g.size) {r w : Nat} (hr : r < g.size)
    (hw : w < g.size) : writeSpaceAt g r w = g.size - 1 - readSpaceAt g r w := by
  have hk := add_readSpaceAt_mod g hp hr hw
  have hlt := readSpaceAt_lt g hp r w
  generalize readSpaceAt g r w = k at hk hlt ⊢
  -- from `w + 1` it is `size - 1 - k` steps on to `r`, which is `k` steps before `w`
  have e : (w + 1 + (g.size - 1 - k)) % g.size = r := by
    rw [show w + 1 + (g.size - 1 - k) = w + (g.size - k) by omega, ← hk, Nat.mod_add_mod,
      show r + k + (g.size - k) = r + g.size by omega, Nat.add_mod_right, Nat.mod_eq_of_lt hr]
  rw [writeSpaceAt_eq_readSpaceAt g hp r hw]
  exact readSpaceAt_eq_of_add_mod g hp (by omega) (by omega) e

theorem writeSpaceAt_advance (g : Ring) (hp : P2 g.size) {r w k : Nat} (hr : r < g.size)
    (hw : w < g.size) (hk : k ≤ writeSpaceAt g r w) :
    writeSpaceAt g r ((w + k) % g.size) = writeSpaceAt g r w - k := by
  have hw' := Nat.mod_lt (w + k) hp.pos
  have hlt := readSpaceAt_lt g hp r w
  rw [writeSpaceAt_eq g hp hr hw] at hk ⊢
  have e : readSpaceAt g w ((w + k) % g.size) = k :=
    readSpaceAt_eq_of_add_mod g hp (Nat.le_of_lt hw) (by omega) rfl
  rw [writeSpaceAt_eq g hp hr hw', readSpaceAt_trans g hp hr hw hw' (by rw [e]; omega), e]
  omega

theorem writeSpaceAt_buf (g : Ring) (b : List Nat) (r w : Nat) :
    writeSpaceAt { g with buf := b } r w = writeSpaceAt g r w := by
  unfold writeSpaceAt; rfl

theorem blit_length (buf : List Nat) (pos : Nat) (src : List Nat)
    (h : pos + src.length ≤ buf.length) : (blit buf pos src).length = buf.length := by
  unfold blit
  simp only [List.length_append, List.length_take, List.length_drop]
  omega

theorem getD_blit_add (buf : List Nat) (pos : Nat) (src : List Nat) (o : Nat)
    (h : pos ≤ buf.length) :
    (blit buf pos src).getD (pos + o) 0 =
      if o < src.length then src.getD o 0 else buf.getD (pos + o) 0 := by
  have hl : (buf.take pos).length = pos := by rw [List.length_take]; omega
  unfold blit
  rw [List.getD_eq_getElem?_getD, List.append_assoc, List.getElem?_append_right (by omega), hl,
    Nat.add_sub_cancel_left]
  split
  · rw [List.getElem?_append_left ‹_›, List.getD_eq_getElem?_getD]
  · rw [List.getElem?_append_right (by omega), List.getElem?_drop, List.getD_eq_getElem?_getD]
    congr 2; omega

theorem getD_blit_lt (buf : List Nat) (pos : Nat) (src : List Nat) {j : Nat} (hj : j < pos)
    (h : pos ≤ buf.length) : (blit buf pos src).getD j 0 = buf.getD j 0 := by
  unfold blit
  rw [List.getD_eq_getElem?_getD, List.append_assoc,
    List.getElem?_append_left (by rw [List.length_take]; omega), List.getElem?_take_of_lt hj,
    List.getD_eq_getElem?_getD]

def window (buf : List Nat) (S r n : Nat) : List Nat :=
  (List.range n).map (fun i => buf.getD ((r + i) % S) 0)

theorem window_length (buf : List Nat) (S r n : Nat) : (window buf S r n).length = n := by
  simp [window]

theorem getD_window (buf : List Nat) (S r : Nat) {n i : Nat} (h : i < n) :
    (window buf S r n).getD i 0 = buf.getD ((r + i) % S) 0 := by
  simp [window, List.getD_eq_getElem?_getD, h]

theorem window_ext {buf : List Nat} {S r n : Nat} {l : List Nat} (hl : l.length = n)
    (hf : ∀ i, i < n → buf.getD ((r + i) % S) 0 = l.getD i 0) : window buf S r n = l := by
  apply List.ext_getElem
  · simp [window, hl]
  · intro i h1 h2
    have := hf i (by omega)
    simp only [List.getD_eq_getElem?_getD, List.getElem?_eq_getElem h2, Option.getD_some] at this
    simp [window, this]

theorem window_congr {buf buf' : List Nat} {S r n : Nat}
    (hf : ∀ i, i < n → buf'.getD ((r + i) % S) 0 = buf.getD ((r + i) % S) 0) :
    window buf' S r n = window buf S r n :=
  List.map_congr_left fun i hi => hf i (List.mem_range.1 hi)

theorem window_take (buf : List Nat) (S r : Nat) {n m : Nat} (h : n ≤ m) :
    (window buf S r m).take n = window buf S r n := by
  rw [window, ← List.map_take, List.take_range, Nat.min_eq_left h]; rfl

theorem window_append (buf : List Nat) (S r n m : Nat) :
    window buf S r (n + m) = window buf S r n ++ window buf S ((r + n) % S) m := by
  simp only [window, List.range_add, List.map_append, List.map_map, mod_add_mod_assoc]; rfl

theorem window_drop (buf : List Nat) (S r : Nat) {n m : Nat} (h : n ≤ m) :
    (window buf S r m).drop n = window buf S ((r + n) % S) (m - n) := by
  obtain ⟨k, rfl⟩ := Nat.exists_eq_add_of_le h
  rw [window_append, List.drop_left' (window_length ..), Nat.add_sub_cancel_left]

theorem window_eq_slice (buf : List Nat) {S r n : Nat} (hb : buf.length = S) (h : r + n ≤ S) :
    window buf S r n = (buf.drop r).take n := by
  apply window_ext
  · rw [List.length_take, List.length_drop]; omega
  · intro i hi
    rw [Nat.mod_eq_of_lt (by omega)]
    simp [List.getD_eq_getElem?_getD, List.getElem?_drop, hi]

theorem bytes_of_window {buf : List Nat} {S w : Nat} {p : List Nat}
    (h : window buf S w p.length = p) :
    ∀ i, i < p.length → buf.getD ((w + i) % S) 0 = p.getD i 0 := by
  intro i hi
  rw [← getD_window buf S w hi, h]

theorem peek_pieces (buf : List Nat) (S r n : Nat) (hb : buf.length = S) (hr : r < S)
    (hn : n ≤ S) :
    (if r + n < S then (buf.drop r).take n
      else (buf.drop r).take (S - r) ++ buf.take (n - (S - r))) =
    window buf S r n := by
  obtain ⟨k, rfl⟩ : ∃ k, S = r + k := ⟨S - r, by omega⟩
  rw [Nat.add_sub_cancel_left]
  split
  · exact (window_eq_slice buf hb (by omega)).symm
  · obtain ⟨m, rfl⟩ : ∃ m, n = k + m := ⟨n - k, by omega⟩
    rw [Nat.add_sub_cancel_left, window_append, Nat.mod_self,
      window_eq_slice buf hb (Nat.le_refl _), window_eq_slice buf hb (show 0 + m ≤ r + k by omega)]
    rfl

/-- the buffer after `amend` copied `d` in at `tw` -/
def ringBlit (buf : List Nat) (S tw : Nat) (d : List Nat) : List Nat :=
  if tw + d.length ≤ S then blit buf tw d
  else blit (blit buf tw (d.take (S - tw))) 0 (d.drop (S - tw))

theorem ringBlit_two (buf : List Nat) (S tw : Nat) (d : List Nat) :
    ringBlit buf S tw d = blit (blit buf tw (d.take (S - tw))) 0 (d.drop (S - tw)) := by
  fun_cases ringBlit buf S tw d
  · rw [List.take_of_length_le (by omega), List.drop_of_length_le (by omega)]
    simp [blit]
  · rfl

theorem ringBlit_length (buf : List Nat) (S tw : Nat) (d : List Nat) (hb : buf.length = S)
    (ht : tw < S) (hd : d.length ≤ S) : (ringBlit buf S tw d).length = S := by
  have h1 : (blit buf tw (d.take (S - tw))).length = buf.length :=
    blit_length _ _ _ (by rw [List.length_take]; omega)
  rw [ringBlit_two, blit_length _ _ _ (by rw [h1, List.length_drop]; omega), h1, hb]

theorem getD_ringBlit (buf : List Nat) (S tw : Nat) (d : List Nat) (hb : buf.length = S)
    (ht : tw < S) (hd : d.length ≤ S) (o : Nat) (ho : o < S) :
    (ringBlit buf S tw d).getD ((tw + o) % S) 0 =
      if o < d.length then d.getD o 0 else buf.getD ((tw + o) % S) 0 := by
  -- with `S = tw + k` no truncated subtraction is left, which `omega` would split on at every call
  obtain ⟨k, rfl⟩ : ∃ k, S = tw + k := ⟨S - tw, by omega⟩
  have hin : tw ≤ buf.length := by omega
  rw [ringBlit_two, Nat.add_sub_cancel_left]
  by_cases h : o < k
  · -- no wrap: cell `tw + o`, which lies behind the second piece
    have h2 := getD_blit_add (blit buf tw (d.take k)) 0 (d.drop k) (tw + o) (Nat.zero_le _)
    rw [Nat.zero_add, List.length_drop, if_neg (by omega)] at h2
    rw [Nat.mod_eq_of_lt (by omega), h2, getD_blit_add _ _ _ _ hin, List.length_take]
    by_cases hon : o < d.length
    · rw [if_pos (by omega), if_pos hon]
      simp [List.getD_eq_getElem?_getD, h]
    · rw [if_neg (by omega), if_neg hon]
  · -- wrapped: cell `o - k`, which lies before the first piece
    obtain ⟨j, rfl⟩ : ∃ j, o = k + j := ⟨o - k, by omega⟩
    have h2 := getD_blit_add (blit buf tw (d.take k)) 0 (d.drop k) j (Nat.zero_le _)
    rw [Nat.zero_add, List.length_drop] at h2
    rw [← Nat.add_assoc, Nat.add_mod_left, Nat.mod_eq_of_lt (by omega), h2]
    by_cases hon : k + j < d.length
    · rw [if_pos (by omega), if_pos hon]
      simp [List.getD_eq_getElem?_getD, List.getElem?_drop]
    · rw [if_neg (by omega), if_neg hon, getD_blit_lt _ _ _ (by omega) hin]

theorem window_ringBlit_self (buf : List Nat) (S tw : Nat) (d : List Nat) (hb : buf.length = S)
    (ht : tw < S) (hd : d.length ≤ S) : window (ringBlit buf S tw d) S tw d.length = d := by
  apply window_ext rfl
  intro i hi
  rw [getD_ringBlit buf S tw d hb ht hd i (by omega), if_pos hi]

/-- A window that ends at or before the write position `tw` (`hn`, `hm`) is untouched by a copy
that does not lap round to it (`hd`). -/
theorem window_ringBlit_before (buf : List Nat) (S tw : Nat) (d : List Nat) (hb : buf.length = S)
    (ht : tw < S) {a n m : Nat} (hn : (a + n) % S = tw) (hd : n + d.length ≤ S) (hm : m ≤ n) :
    window (ringBlit buf S tw d) S a m = window buf S a m := by
  obtain ⟨j, rfl⟩ := Nat.exists_eq_add_of_le (Nat.le_of_add_right_le hd)
  apply window_congr
  intro k hk
  -- cell `a + k` lies `j + k` past the write position, beyond the copy
  have e : (a + k) % (n + j) = (tw + (j + k)) % (n + j) := by
    rw [← hn, Nat.mod_add_mod, show a + n + (j + k) = a + k + (n + j) by omega, Nat.add_mod_right]
  rw [e, getD_ringBlit buf _ tw d hb ht (by omega) _ (by omega), if_neg (by omega)]

theorem amend_eq (g : Ring) (tx : Tx) (d : List Nat) (ht : tx.w < g.size)
    (hd : ¬ writeSpaceAt g tx.r tx.w < d.length) (hn : d.length < g.size) :
    amend g tx d = some ({ g with buf := ringBlit g.buf g.size tx.w d },
      { tx with w := (tx.w + d.length) % g.size }) := by
  unfold amend ringBlit
  simp only [hd, if_false]
  split
  · rfl
  · rw [Nat.mod_eq_sub_mod (by omega), Nat.mod_eq_of_lt (by omega),
      show d.length - (g.size - tx.w) = tx.w + d.length - g.size by omega]

theorem amend_none (g : Ring) (tx : Tx) (d : List Nat)
    (hd : writeSpaceAt g tx.r tx.w < d.length) : amend g tx d = none := by
  unfold amend
  simp only [hd, if_true]

/-! The kernel cannot compare `write g d` with a `match` on `amend …` directly: matchers are
unfolded first and their discriminant is then evaluated, which runs into the unary unfolding of
`_ + 2^32`: the check does not come back.  Unfolding the *unapplied* constant against a
syntactically equal lambda avoids any evaluation; the discriminant is then rewritten before the
matcher is reduced.  The statement names the matcher (`write.match_1`) and has to follow the
definition.  Where the stuck call sits under further matches, copy `Impl.amendG` of
`Properties/C05History.lean`. -/

theorem write_fun : write = fun g src =>
    write.match_1 (fun _ => Ring × Nat) (amend g (beginWrite g) src)
      (fun _ => (g, 0)) (fun g' tx => (commit g' tx, src.length)) := rfl

theorem read_fun : read = fun g n =>
    read.match_1 (fun _ => Ring × Option (List Nat)) (peekAt g g.r g.w n)
      (fun _ => (g, none)) (fun d => ({ g with r := (g.r + n) % W32 % g.size }, some d)) := rfl

theorem write_of_none (g : Ring) (d : List Nat) (h : amend g (beginWrite g) d = none) :
    write g d = (g, 0) := by
  rw [write_fun]
  show write.match_1 _ (amend g (beginWrite g) d) _ _ = _
  rw [h]

theorem write_of_some (g g' : Ring) (tx' : Tx) (d : List Nat)
    (h : amend g (beginWrite g) d = some (g', tx')) :
    write g d = (commit g' tx', d.length) := by
  rw [write_fun]
  show write.match_1 _ (amend g (beginWrite g) d) _ _ = _
  rw [h]

theorem read_of_none (g : Ring) (n : Nat) (h : peekAt g g.r g.w n = none) :
    read g n = (g, none) := by
  rw [read_fun]
  show read.match_1 _ (peekAt g g.r g.w n) _ _ = _
  rw [h]

theorem read_of_some (g : Ring) (n : Nat) (l : List Nat) (h : peekAt g g.r g.w n = some l) :
    read g n = ({ g with r := (g.r + n) % W32 % g.size }, some l) := by
  rw [read_fun]
  show read.match_1 _ (peekAt g g.r g.w n) _ _ = _
  rw [h]

end Zix.Ring

namespace Zix.C05
open Zix.Ring

theorem content_eq (g : Ring) : content g = window g.buf g.size g.r (readSpace g) := rfl

theorem content_length (g : Ring) : (content g).length = readSpace g := by
  rw [content_eq, window_length]

theorem content_nil {g : Ring} (e : g.r = g.w) : content g = [] := by
  rw [content_eq, readSpace, e, readSpaceAt_self]
  rfl

theorem WF.readSpace_lt {g : Ring} (h : WF g) : readSpace g < g.size :=
  readSpaceAt_lt g h.pow g.r g.w

theorem writeSpace_eq {g : Ring} (h : WF g) : writeSpace g = g.size - 1 - readSpace g :=
  writeSpaceAt_eq g h.pow h.rlt h.wlt

/-- `TxOk.fits` with its first summand read as the distance from the transaction's read head to the
live one -/
theorem TxOk.fits' {g : Ring} {tx : Tx} {p : List Nat} (ht : TxOk g tx p) :
    readSpaceAt g tx.r g.r + readSpace g + p.length ≤ g.size - 1 := ht.fits

theorem TxOk.window {g : Ring} {tx : Tx} {p : List Nat} (ht : TxOk g tx p) :
    window g.buf g.size g.w p.length = p := window_ext rfl ht.bytes

/-- From the live read head to `tx.w` lie the data and the pending bytes; from the transaction's
stale head the stale stretch comes on top. -/
theorem TxOk.span {g : Ring} (h : WF g) {tx : Tx} {p : List Nat} (ht : TxOk g tx p) :
    readSpaceAt g g.r tx.w = readSpace g + p.length ∧
    readSpaceAt g tx.r tx.w = readSpaceAt g tx.r g.r + readSpace g + p.length := by
  have hfit := ht.fits'
  have hpos := P2.pos h.pow
  have e1 : readSpaceAt g g.w tx.w = p.length :=
    readSpaceAt_eq_of_add_mod g h.pow (Nat.le_of_lt h.wlt) (by omega) ht.pend.symm
  have e2 : readSpaceAt g g.r tx.w = readSpace g + p.length := by
    have hlt : readSpaceAt g g.r g.w + readSpaceAt g g.w tx.w < g.size := by
      rw [e1]
      show readSpace g + _ < _
      omega
    rw [readSpaceAt_trans g h.pow h.rlt h.wlt ht.wlt hlt, e1]
    rfl
  refine ⟨e2, ?_⟩
  rw [readSpaceAt_trans g h.pow ht.rlt h.rlt ht.wlt (by rw [e2]; omega), e2, Nat.add_assoc]

theorem beginWrite_ok {g : Ring} (h : WF g) : TxOk g (beginWrite g) [] := by
  have hlt := h.readSpace_lt
  refine ⟨h.rlt, h.wlt, ?_, (Nat.mod_eq_of_lt h.wlt).symm,
    fun i hi => absurd hi (Nat.not_lt_zero _)⟩
  show readSpaceAt g g.r g.r + readSpace g + 0 ≤ g.size - 1
  rw [readSpaceAt_self]
  omega

/-- `amend` with room, its result written out, so that what it leaves alone is read off by `rfl` -/
theorem amend_ok {g : Ring} (h : WF g) {tx : Tx} {p : List Nat} (ht : TxOk g tx p) {d : List Nat}
    (hd : d.length ≤ writeSpaceAt g tx.r tx.w) :
    amend g tx d = some ({ g with buf := ringBlit g.buf g.size tx.w d },
      { tx with w := (tx.w + d.length) % g.size }) ∧
    WF { g with buf := ringBlit g.buf g.size tx.w d } ∧
    content { g with buf := ringBlit g.buf g.size tx.w d } = content g ∧
    TxOk { g with buf := ringBlit g.buf g.size tx.w d } { tx with w := (tx.w + d.length) % g.size }
      (p ++ d) := by
  have hpos := P2.pos h.pow
  have hsp : readSpaceAt g tx.r g.r + readSpace g + p.length + d.length ≤ g.size - 1 := by
    have hfit := ht.fits'
    rw [writeSpaceAt_eq g h.pow ht.rlt ht.wlt, (ht.span h).2] at hd
    omega
  have hD : d.length < g.size := by omega
  have hr : (g.r + (readSpace g + p.length)) % g.size = tx.w := by
    rw [← (ht.span h).1, add_readSpaceAt_mod g h.pow h.rlt ht.wlt]
  have hw : (g.w + p.length) % g.size = tx.w := ht.pend.symm
  refine ⟨amend_eq g tx d ht.wlt (Nat.not_lt.2 hd) hD,
    ⟨h.pow, h.rlt, h.wlt, ringBlit_length _ _ _ _ h.blen ht.wlt (Nat.le_of_lt hD)⟩,
    ?_, ht.rlt, Nat.mod_lt _ hpos, ?_, ?_, bytes_of_window ?_⟩
  · rw [content_eq, content_eq]
    exact window_ringBlit_before _ _ _ _ h.blen ht.wlt hr (by omega) (Nat.le_add_right _ _)
  · show readSpaceAt g tx.r g.r + readSpace g + (p ++ d).length ≤ g.size - 1
    rw [List.length_append, ← Nat.add_assoc]; exact hsp
  · show (tx.w + d.length) % g.size = (g.w + (p ++ d).length) % g.size
    rw [List.length_append, ← hw, mod_add_mod_assoc]
  · show window (ringBlit g.buf g.size tx.w d) g.size g.w (p ++ d).length = p ++ d
    rw [List.length_append, window_append, hw,
      window_ringBlit_self _ _ _ _ h.blen ht.wlt (Nat.le_of_lt hD),
      window_ringBlit_before _ _ _ _ h.blen ht.wlt hw (by omega) (Nat.le_refl _), ht.window]

theorem commit_ok {g : Ring} (h : WF g) {tx : Tx} {p : List Nat} (ht : TxOk g tx p) :
    WF (commit g tx) ∧ content (commit g tx) = content g ++ p := by
  have e : readSpace { g with w := tx.w } = readSpace g + p.length := (ht.span h).1
  have e' : (g.r + readSpace g) % g.size = g.w := add_readSpaceAt_mod g h.pow h.rlt h.wlt
  refine ⟨⟨h.pow, h.rlt, ht.wlt, h.blen⟩, ?_⟩
  unfold commit
  rw [content_eq, e, window_append, e', ht.window, content_eq]

theorem consume_ok {g : Ring} (h : WF g) {n : Nat} (hn : n ≤ readSpace g) :
    WF { g with r := (g.r + n) % g.size } ∧
    content { g with r := (g.r + n) % g.size } = (content g).drop n ∧
    ∀ tx p, TxOk g tx p → TxOk { g with r := (g.r + n) % g.size } tx p := by
  have hr' : (g.r + n) % g.size < g.size := Nat.mod_lt _ (P2.pos h.pow)
  have hlt := h.readSpace_lt
  have e : readSpace { g with r := (g.r + n) % g.size } = readSpace g - n :=
    readSpaceAt_advance g h.pow h.rlt h.wlt hn
  refine ⟨⟨h.pow, hr', h.wlt, h.blen⟩, ?_, ?_⟩
  · rw [content_eq, e, content_eq, window_drop _ _ _ hn]
  · intro tx p ht
    have hfit := ht.fits'
    have e1 : readSpaceAt g g.r ((g.r + n) % g.size) = n :=
      readSpaceAt_eq_of_add_mod g h.pow (Nat.le_of_lt h.rlt) (by omega) rfl
    refine ⟨ht.rlt, ht.wlt, ?_, ht.pend, ht.bytes⟩
    show readSpaceAt g tx.r ((g.r + n) % g.size) +
      readSpace { g with r := (g.r + n) % g.size } + p.length ≤ g.size - 1
    rw [readSpaceAt_trans g h.pow ht.rlt h.rlt hr' (by rw [e1]; omega), e1, e]
    omega

theorem peek_eq {g : Ring} (h : WF g) (n : Nat) :
    peek g n = if n ≤ readSpace g then some ((content g).take n) else none := by
  show peekAt g g.r g.w n = _
  show (if readSpace g < n then none else _) = _
  by_cases hn : n ≤ readSpace g
  · have hlt := h.readSpace_lt
    rw [if_neg (Nat.not_lt.2 hn), if_pos hn, content_eq, window_take _ _ _ hn,
      ← peek_pieces g.buf g.size g.r n h.blen h.rlt (by omega)]
    split <;> rfl
  · rw [if_pos (Nat.lt_of_not_le hn), if_neg hn]

theorem read_eq {g : Ring} (h : WF g) (n : Nat) :
    read g n =
      if n ≤ readSpace g then ({ g with r := (g.r + n) % g.size }, some ((content g).take n))
      else (g, none) := by
  have hp : peekAt g g.r g.w n = _ := peek_eq h n
  split
  · rw [if_pos ‹_›] at hp
    rw [read_of_some g n _ hp, Nat.mod_mod_of_dvd _ (P2.dvd h.pow)]
  · rw [if_neg ‹_›] at hp
    exact read_of_none g n hp

theorem skip_eq {g : Ring} (h : WF g) (n : Nat) :
    skip g n =
      if n ≤ readSpace g then ({ g with r := (g.r + n) % g.size }, true) else (g, false) := by
  fun_cases skip g n
  · exact (if_neg (Nat.not_le.2 ‹_›)).symm
  · rw [if_pos (Nat.le_of_not_lt ‹_›), Nat.mod_mod_of_dvd _ (P2.dvd h.pow)]

theorem write_eq {g : Ring} (h : WF g) (d : List Nat) :
    write g d = if d.length ≤ writeSpace g then
      ({ g with buf := ringBlit g.buf g.size g.w d, w := (g.w + d.length) % g.size }, d.length)
      else (g, 0) := by
  split
  · rw [write_of_some g _ _ d (amend_ok h (beginWrite_ok h) (d := d) ‹_›).1]
    rfl
  · exact write_of_none g d (amend_none g (beginWrite g) d (Nat.lt_of_not_le ‹_›))

theorem produce_ok {g : Ring} (h : WF g) {d : List Nat} (hd : d.length ≤ writeSpace g) :
    WF { g with buf := ringBlit g.buf g.size g.w d, w := (g.w + d.length) % g.size } ∧
    content { g with buf := ringBlit g.buf g.size g.w d, w := (g.w + d.length) % g.size } =
      content g ++ d := by
  obtain ⟨_, hw, hc, ht⟩ := amend_ok h (beginWrite_ok h) (d := d) hd
  have := commit_ok hw ht
  rw [hc] at this
  exact this

end Zix.C05

/-! Well-formed allocator logs.  Block ids are serial numbers, so a granted block is always the next
fresh id. -/
namespace Zix.AllocLog

inductive Act where
  | alloc (b : Nat)
  | refused
  | free (b : Nat)

def allocs (es : List Act) : List Nat := es.filterMap fun | .alloc b => some b | _ => none

def frees (es : List Act) : List Nat := es.filterMap fun | .free b => some b | _ => none

/-- `Log L n es L' n'`: the events `es` lead from the outstanding blocks `L`, with `n` the next
fresh id, to the outstanding blocks `L'` (up to order) and next fresh id `n'`. -/
def Log : List Nat → Nat → List Act → List Nat → Nat → Prop
  | L, n, [], L', n' => L.Perm L' ∧ n = n'
  | L, n, .alloc b :: es, L', n' => b = n ∧ Log (b :: L) (n + 1) es L' n'
  | L, n, .refused :: es, L', n' => Log L n es L' n'
  | L, n, .free b :: es, L', n' => b ∈ L ∧ Log (L.erase b) n es L' n'

theorem Log.perm {es : List Act} : ∀ {L M L' : List Nat} {n n' : Nat},
    L.Perm M → Log L n es L' n' → Log M n es L' n' := by
  induction es with
  | nil => exact fun p h => ⟨p.symm.trans h.1, h.2⟩
  | cons e es ih =>
    intro L M L' n n' p h
    cases e with
    | alloc b => exact ⟨h.1, ih (p.cons b) h.2⟩
    | refused => exact ih p h
    | free b => exact ⟨p.mem_iff.1 h.1, ih (p.erase b) h.2⟩

theorem Log.append {a : List Act} : ∀ {L M L' : List Nat} {n m n' : Nat} {b : List Act},
    Log L n a M m → Log M m b L' n' → Log L n (a ++ b) L' n' := by
  induction a with
  | nil => exact fun h hb => (h.2 ▸ hb).perm h.1.symm
  | cons e a ih =>
    intro L M L' n m n' b h hb
    cases e with
    | alloc c => exact ⟨h.1, ih h.2 hb⟩
    | refused => exact ih h hb
    | free c => exact ⟨h.1, ih h.2 hb⟩

theorem Log.balance {es : List Act} : ∀ {L L' : List Nat} {n n' : Nat},
    Log L n es L' n' → (frees es ++ L').Perm (L ++ allocs es) := by
  induction es with
  | nil => exact fun h => by simpa [frees, allocs] using h.1.symm
  | cons e es ih =>
    intro L L' n n' h
    cases e with
    | alloc b => exact (ih h.2).trans List.perm_middle.symm
    | refused => exact ih h
    | free b => exact ((ih h.2).cons b).trans ((List.perm_cons_erase h.1).symm.append_right _)

theorem Log.allocs_fresh {es : List Act} : ∀ {L L' : List Nat} {n n' : Nat},
    Log L n es L' n' → (allocs es).Nodup ∧ ∀ b ∈ allocs es, n ≤ b := by
  induction es with
  | nil => exact fun _ => ⟨List.nodup_nil, fun _ hb => nomatch hb⟩
  | cons e es ih =>
    intro L L' n n' h
    cases e with
    | alloc b =>
      obtain ⟨rfl, h⟩ := h
      -- the blocks granted later are above `b`
      obtain ⟨hnd, hge⟩ := ih h
      refine ⟨List.nodup_cons.2 ⟨fun hm => Nat.not_succ_le_self b (hge b hm), hnd⟩,
        fun x hx => ?_⟩
      rcases List.mem_cons.1 hx with rfl | hx
      · exact Nat.le_refl _
      · exact Nat.le_of_succ_le (hge x hx)
    | refused => exact ih h
    | free b => exact ih h.2

theorem Log.split {a : List Act} : ∀ {L L' : List Nat} {n n' : Nat} {b : List Act},
    Log L n (a ++ b) L' n' → ∃ M m, Log L n a M m ∧ Log M m b L' n' := by
  induction a with
  | nil => exact fun h => ⟨_, _, ⟨.refl _, rfl⟩, h⟩
  | cons e a ih =>
    intro L L' n n' b h
    cases e with
    | alloc c => obtain ⟨M, m, h1, h2⟩ := ih h.2; exact ⟨M, m, ⟨h.1, h1⟩, h2⟩
    | refused => exact ih h
    | free c => obtain ⟨M, m, h1, h2⟩ := ih h.2; exact ⟨M, m, ⟨h.1, h1⟩, h2⟩

theorem Log.exactly_once {es : List Act} {n n' : Nat} (h : Log [] n es [] n') :
    (allocs es).Nodup ∧ (frees es).Perm (allocs es) :=
  ⟨h.allocs_fresh.1, List.append_nil (frees es) ▸ h.balance⟩

/-- By `balance` for the events before the release: the block is among `frees pre ++ M`, a list
without repetitions since `allocs pre` has none. -/
theorem Log.free_after_alloc {b : Nat} {pre post : List Act} {L' : List Nat} {n n' : Nat}
    (h : Log [] n (pre ++ .free b :: post) L' n') : b ∈ allocs pre ∧ b ∉ frees pre := by
  obtain ⟨M, m, h1, hb, _⟩ := h.split
  have hp : (frees pre ++ M).Perm (allocs pre) := h1.balance
  exact ⟨hp.mem_iff.1 (List.mem_append_right _ hb),
    fun hf => (List.nodup_append.1 (hp.nodup_iff.2 h1.allocs_fresh.1)).2.2 b hf b hb rfl⟩

end Zix.AllocLog

import ZixModel.Spec.BTree
import ZixModel.Lemmas.BTreeBasic
/-! Iterators of the B-tree. A valid path has a `rank`: the number of elements in front of the one
it points at, so that `deref n p = n.elems[rank n p]?` and distinct valid paths have distinct ranks.
Every positional operation is described by the position (`pos`: the rank, or `elems.length` for the
end) of its result: `leftmost` 0, `increment` one more, `lowerBound` the first element that is not
negative under the comparator. The frame-stack fallbacks of the C code (`popEnds` in `increment` and
in `lowerBound`) are the structural recursion `popSpec`. -/
namespace Zix.BTree.It
open Zix.C02 (ValidIter Compatible)
open Zix.BTree.Rem (suff)

theorem suff_drop_lt (cs : List Node) (vs : List Nat) (i : Nat) (h : i < vs.length) :
    suff (cs.drop (i + 1)) (vs.drop i) =
      vs[i] :: interleave (cs.drop (i + 1)) (vs.drop (i + 1)) := by
  rw [List.drop_eq_getElem_cons h, Rem.suff_cons]

theorem suff_drop_ge (cs : List Node) (vs : List Nat) (i : Nat) (hl : cs.length = vs.length + 1)
    (h : vs.length ≤ i) :
    suff (cs.drop (i + 1)) (vs.drop i) = [] := by
  rw [List.drop_eq_nil_of_le h, List.drop_eq_nil_of_le (by omega)]; rfl

theorem suff_drop_head (cs : List Node) (vs : List Nat) (i : Nat) (hl : cs.length = vs.length + 1) :
    (suff (cs.drop (i + 1)) (vs.drop i)).head? = vs[i]? := by
  by_cases h : i < vs.length
  · rw [suff_drop_lt cs vs i h, List.getElem?_eq_getElem h]; rfl
  · rw [suff_drop_ge cs vs i hl (Nat.not_lt.1 h), List.getElem?_eq_none (Nat.not_lt.1 h)]; rfl

theorem pref_take_succ : ∀ (cs : List Node) (vs : List Nat) (i : Nat)
    (_ : cs.length = vs.length + 1) (hi : i < vs.length),
    pref (cs.take (i + 1)) (vs.take (i + 1)) =
      pref (cs.take i) (vs.take i) ++ ((cs.getD i (.leaf 0 [])).elems ++ [vs[i]]) := by
  intro cs
  induction cs with
  | nil => intro vs i hl; simp at hl
  | cons c cs ih =>
    intro vs i hl hi
    cases vs with
    | nil => simp at hi
    | cons v vs =>
      cases i with
      | zero => simp [pref]
      | succ i => simp [pref, ih vs i (by simpa using hl) (by simpa using hi)]

theorem pref_length_succ (cs : List Node) (vs : List Nat) (i : Nat)
    (hl : cs.length = vs.length + 1) (hi : i < vs.length) :
    (pref (cs.take (i + 1)) (vs.take (i + 1))).length =
      (pref (cs.take i) (vs.take i)).length + (cs.getD i (.leaf 0 [])).elems.length + 1 := by
  rw [pref_take_succ cs vs i hl hi, List.length_append, List.length_append]; rfl

theorem pref_length_lt (cs : List Node) (vs : List Nat) (i : Nat)
    (hl : cs.length = vs.length + 1) :
    ∀ j, i < j → j ≤ vs.length →
      (pref (cs.take i) (vs.take i)).length + (cs.getD i (.leaf 0 [])).elems.length <
        (pref (cs.take j) (vs.take j)).length := by
  intro j
  induction j with
  | zero => intro h; omega
  | succ j ih =>
    intro hij hj
    have := pref_length_succ cs vs j hl (by omega)
    by_cases he : i = j
    · subst he; omega
    · have := ih (by omega) (by omega); omega

theorem elems_ne_nil {c : Cfg} {h : Nat} {n : Node} (hs : Shape c false h n) (hm : 1 ≤ c.leafMin) :
    n.elems ≠ [] := by
  cases n with
  | leaf id vs =>
    rw [shape_leaf] at hs
    intro h0
    simp at h0
    subst h0
    simp at hs
    omega
  | inode id vs cs =>
    obtain ⟨h', _, h1, _, _, h4, _⟩ := shape_inode.1 hs
    cases vs with
    | nil => simp at h1
    | cons v vs =>
      cases cs with
      | nil => simp at h4
      | cons x cs => simp

theorem nodeAt_cons_some {n : Node} {i : Nat} {r : List Nat} {x : Node × Nat} (hr : r ≠ [])
    (h : nodeAt n (i :: r) = some x) : n.isLeaf = false ∧ nodeAt (n.child i) r = some x := by
  cases r with
  | nil => exact absurd rfl hr
  | cons j r =>
    rw [nodeAt_cons_cons] at h
    cases hl : n.isLeaf <;> simp_all

theorem nodeAt_snoc_isSome : ∀ (a : List Nat) (root : Node) (i : Nat), a ≠ [] →
    (nodeAt root (a ++ [i])).isSome → (nodeAt root a).isSome := by
  intro a
  induction a with
  | nil => intro _ _ h; exact absurd rfl h
  | cons j a ih =>
    intro root i _ h
    by_cases ha : a = []
    · subst ha; simp [nodeAt_single]
    · obtain ⟨x, hx⟩ := Option.isSome_iff_exists.1 h
      rw [List.cons_append] at hx
      obtain ⟨hl, h'⟩ := nodeAt_cons_some (by simp) hx
      rw [nodeAt_cons _ _ _ ha hl]
      exact ih _ i ha (by rw [h']; rfl)

theorem nodeAt_dropLast_snoc : ∀ (r : List Nat) (n m : Node) (j k : Nat),
    nodeAt n r = some (m, j) → nodeAt n (r.dropLast ++ [k]) = some (m, k) := by
  intro r
  induction r with
  | nil => intro n m j k h; simp [nodeAt_nil] at h
  | cons i r ih =>
    intro n m j k h
    by_cases hr : r = []
    · subst hr
      simp only [nodeAt_single, Option.some.injEq, Prod.mk.injEq] at h
      simp [nodeAt_single, h.1]
    · obtain ⟨hl, h'⟩ := nodeAt_cons_some hr h
      rw [List.dropLast_cons_of_ne_nil hr, List.cons_append, nodeAt_cons _ _ _ (by simp) hl]
      exact ih _ m j k h'

theorem vi_nil (n : Node) : ¬ ValidIter n [] := by simp [ValidIter, nodeAt_nil]

theorem vi_single (n : Node) (i : Nat) : ValidIter n [i] ↔ i < n.nVals := by
  simp only [ValidIter, nodeAt_single]
  constructor
  · rintro ⟨m, j, h1, h2⟩
    cases h1; exact h2
  · intro h; exact ⟨n, i, rfl, h⟩

theorem vi_default (p : List Nat) : ¬ ValidIter (.leaf 0 []) p := by
  cases p with
  | nil => exact vi_nil _
  | cons i r =>
    cases r with
    | nil => simp [vi_single, nVals_leaf]
    | cons j r => simp [ValidIter, nodeAt_cons_cons, isLeaf_leaf]

theorem vi_cons (n : Node) (i : Nat) (r : List Nat) (hr : r ≠ []) :
    ValidIter n (i :: r) ↔ n.isLeaf = false ∧ ValidIter (n.child i) r := by
  cases r with
  | nil => exact absurd rfl hr
  | cons j r =>
    unfold ValidIter
    rw [nodeAt_cons_cons]
    cases hl : n.isLeaf <;> simp

theorem deref_single (n : Node) (i : Nat) : deref n (some [i]) = n.vals[i]? := by
  simp [deref, nodeAt_single]

theorem deref_cons (n : Node) (i : Nat) (r : List Nat) (hr : r ≠ []) (hn : n.isLeaf = false) :
    deref n (some (i :: r)) = deref (n.child i) (some r) := by
  simp [deref, nodeAt_cons n i r hr hn]

theorem vi_of_deref {n : Node} {p : List Nat} {v : Nat} (h : deref n (some p) = some v) :
    ValidIter n p := by
  simp only [deref] at h
  split at h
  · exact ⟨_, _, ‹_›, (List.getElem?_eq_some_iff.1 h).1⟩
  · cases h

theorem vi_deref {n : Node} {p : List Nat} (h : ValidIter n p) :
    ∃ v, deref n (some p) = some v := by
  obtain ⟨m, i, h1, h2⟩ := h
  exact ⟨m.vals[i]'h2, by simp only [deref, h1]; exact List.getElem?_eq_getElem h2⟩

theorem end_iff_deref {n : Node} {it : Iter} (hv : ∀ q, it = some q → ValidIter n q) :
    it = none ↔ deref n it = none := by
  cases it with
  | none => exact ⟨fun _ => rfl, fun _ => rfl⟩
  | some q => obtain ⟨v, hd⟩ := vi_deref (hv q rfl); simp [hd]

theorem vi_leaf {id vs} {i : Nat} {r : List Nat} (hv : ValidIter (.leaf id vs) (i :: r)) :
    r = [] ∧ i < vs.length := by
  by_cases hr : r = []
  · subst hr; exact ⟨rfl, (vi_single _ _).1 hv⟩
  · exact nomatch ((vi_cons _ _ _ hr).1 hv).1

theorem vi_inode {id vs cs} {i : Nat} {r : List Nat} (hl : cs.length = vs.length + 1)
    (hv : ValidIter (.inode id vs cs) (i :: r)) :
    i < cs.length ∧ (r = [] ∧ i < vs.length ∨ r ≠ [] ∧ ValidIter (cs.getD i (.leaf 0 [])) r) := by
  by_cases hr : r = []
  · subst hr
    have : i < vs.length := (vi_single _ _).1 hv
    exact ⟨by omega, Or.inl ⟨rfl, this⟩⟩
  · have hc : ValidIter (cs.getD i (.leaf 0 [])) r := ((vi_cons _ _ _ hr).1 hv).2
    refine ⟨Nat.lt_of_not_le fun hi => ?_, Or.inr ⟨hr, hc⟩⟩
    rw [List.getD_eq_getElem?_getD, List.getElem?_eq_none hi] at hc
    exact vi_default r hc

/-- number of elements of `n` in front of the one the path points at; the empty path is the end -/
def rank : Node → List Nat → Nat
  | n, [] => n.elems.length
  | .leaf _ _, i :: _ => i
  | .inode _ vs cs, i :: r =>
    (pref (cs.take i) (vs.take i)).length + rank (cs.getD i (.leaf 0 [])) r

theorem rank_nil (n : Node) : rank n [] = n.elems.length := by rw [rank]
theorem rank_leaf (id vs i r) : rank (.leaf id vs) (i :: r) = i := by rw [rank]

theorem rank_inode (id vs cs i r) :
    rank (.inode id vs cs) (i :: r) =
      (pref (cs.take i) (vs.take i)).length + rank (cs.getD i (.leaf 0 [])) r := by
  rw [rank]

theorem rank_spec (c : Cfg) {h : Nat} {rt : Bool} {n : Node} (hs : Shape c rt h n) :
    ∀ p, ValidIter n p → deref n (some p) = n.elems[rank n p]? := by
  refine shape_ind (fun rt id vs _ => ?_) (fun rt k id vs cs _ h3 h4 ih => ?_) hs <;>
    rintro (_ | ⟨i, rp⟩) hv
  · exact absurd hv (vi_nil _)
  · obtain ⟨rfl, -⟩ := vi_leaf hv
    rw [deref_single, rank_leaf, elems_leaf]; rfl
  · exact absurd hv (vi_nil _)
  · obtain ⟨hic, ⟨rfl, -⟩ | ⟨hr, hvc⟩⟩ := vi_inode h3 hv
    · rw [deref_single, rank_inode, rank_nil, elems_inode, interleave_at (i := i) (by omega) h3,
        List.append_assoc, List.getElem?_append_right (Nat.le_add_right _ _),
        Nat.add_sub_cancel_left, List.getElem?_append_right (Nat.le_refl _), Nat.sub_self,
        ← List.head?_eq_getElem?, suff_drop_head cs vs i h3]
      rfl
    · have e := ih _ (shapeAll_getD h4 hic) _ hvc
      obtain ⟨v, hd⟩ := vi_deref hvc
      have hlt := (List.getElem?_eq_some_iff.1 (e ▸ hd)).1
      rw [deref_cons _ _ _ hr rfl, child_inode, e, rank_inode, elems_inode,
        interleave_at (i := i) (by omega) h3, List.append_assoc,
        List.getElem?_append_right (Nat.le_add_right _ _), Nat.add_sub_cancel_left,
        List.getElem?_append_left hlt]

theorem rank_lt (c : Cfg) {h : Nat} {rt : Bool} {n : Node} {p : List Nat} (hs : Shape c rt h n)
    (hv : ValidIter n p) :
    rank n p < n.elems.length := by
  obtain ⟨v, hd⟩ := vi_deref hv
  exact (List.getElem?_eq_some_iff.1 (rank_spec c hs _ hv ▸ hd)).1

/-- the empty path, of rank `elems.length`, takes part so that the induction goes through -/
theorem rank_inj (c : Cfg) {h : Nat} {rt : Bool} {n : Node} (hs : Shape c rt h n) :
    ∀ p q, (p = [] ∨ ValidIter n p) → (q = [] ∨ ValidIter n q) → rank n p = rank n q → p = q := by
  -- an empty path has a larger rank than a valid one, so two non-empty paths are the case to treat
  have ends : ∀ {h rt n}, Shape c rt h n →
      (∀ i rp j rq, ValidIter n (i :: rp) → ValidIter n (j :: rq) →
        rank n (i :: rp) = rank n (j :: rq) → i :: rp = j :: rq) →
      ∀ p q, (p = [] ∨ ValidIter n p) → (q = [] ∨ ValidIter n q) → rank n p = rank n q → p = q := by
    rintro h rt n hs H p q (rfl | hp) (rfl | hq) he
    · rfl
    · have := rank_lt c hs hq
      rw [rank_nil] at he
      omega
    · have := rank_lt c hs hp
      rw [rank_nil] at he
      omega
    · cases p with
      | nil => exact absurd hp (vi_nil _)
      | cons i rp =>
      cases q with
      | nil => exact absurd hq (vi_nil _)
      | cons j rq => exact H i rp j rq hp hq he
  refine shape_ind (fun rt id vs hs => ?_) (fun rt k id vs cs hs h3 h4 ih => ?_) hs
  · refine ends hs fun i rp j rq hp hq he => ?_
    rw [rank_leaf, rank_leaf] at he
    rw [(vi_leaf hp).1, (vi_leaf hq).1, he]
  · refine ends hs fun i rp j rq hp hq he => ?_
    obtain ⟨hi, hri⟩ := vi_inode h3 hp
    obtain ⟨hj, hrj⟩ := vi_inode h3 hq
    replace hri := hri.imp And.left And.right
    replace hrj := hrj.imp And.left And.right
    have rank_le : ∀ {i r}, i < cs.length → (r = [] ∨ ValidIter (cs.getD i (.leaf 0 [])) r) →
        rank (cs.getD i (.leaf 0 [])) r ≤ (cs.getD i (.leaf 0 [])).elems.length := by
      rintro i r hi (rfl | hv)
      · rw [rank_nil]; exact Nat.le_refl _
      · exact Nat.le_of_lt (rank_lt c (shapeAll_getD h4 hi) hv)
    have := rank_le hi hri
    have := rank_le hj hrj
    rw [rank_inode, rank_inode] at he
    rcases Nat.lt_trichotomy i j with hij | hij | hij
    · have := pref_length_lt cs vs i h3 j hij (by omega); omega
    · subst hij
      rw [ih _ (shapeAll_getD h4 hi) _ _ hri hrj (by omega)]
    · have := pref_length_lt cs vs j h3 i hij (by omega); omega

/-- position of an iterator in the element list; the end iterator is at `elems.length` -/
def pos (n : Node) (it : Iter) : Nat := rank n (it.getD [])

theorem pos_none (n : Node) : pos n none = n.elems.length := rank_nil n
theorem pos_some (n : Node) (p : List Nat) : pos n (some p) = rank n p := rfl

theorem deref_pos (c : Cfg) {h : Nat} {rt : Bool} {n : Node} {it : Iter} (hs : Shape c rt h n)
    (hv : ∀ q, it = some q → ValidIter n q) : deref n it = n.elems[pos n it]? := by
  cases it with
  | none => rw [pos_none, List.getElem?_eq_none (Nat.le_refl _)]; rfl
  | some q => exact rank_spec c hs q (hv q rfl)

theorem leftmost_ne_nil (f : Nat) (n : Node) : leftmost f n ≠ [] := by
  fun_cases leftmost f n <;> simp

theorem leftmost_spec (c : Cfg) (hm : 1 ≤ c.leafMin) {fuel h : Nat} {rt : Bool} {n : Node}
    (hs : Shape c rt h n) (hf : h ≤ fuel) :
    n.elems ≠ [] → ValidIter n (leftmost fuel n) ∧ rank n (leftmost fuel n) = 0 := by
  refine walk_ind (fun f rt id vs _ => ?_) (fun f rt k id vs cs _ _ h3 h4 ih => ?_) hs hf <;>
    intro hne
  · rw [elems_leaf] at hne
    simp only [leftmost, isLeaf_leaf, if_true]
    exact ⟨(vi_single _ _).2 (List.length_pos_iff.2 hne), rank_leaf ..⟩
  · have hc0 := shapeAll_getD h4 (i := 0) (by omega)
    obtain ⟨iv, ir⟩ := ih _ hc0 (elems_ne_nil hc0 hm)
    have hl : leftmost (f + 1) (Node.inode id vs cs) =
        0 :: leftmost f (cs.getD 0 (.leaf 0 [])) := by
      simp [leftmost, isLeaf_inode, child_inode]
    rw [hl, rank_inode, ir]
    exact ⟨(vi_cons _ _ _ (leftmost_ne_nil _ _)).2 ⟨rfl, by rw [child_inode]; exact iv⟩,
      by simp [pref]⟩

/-- result at a node from the result in child `i`: the child's, else separator `i` if it exists -/
def lift (n : Node) (i : Nat) (r : Iter) : Iter :=
  match r with
  | some q => some (i :: q)
  | none => if i < n.nVals then some [i] else none

/-- longest prefix of the path whose last index is not at the end of its node -/
def popSpec : Node → List Nat → Iter
  | _, [] => none
  | n, i :: rest => lift n i (popSpec (n.child i) rest)

theorem popSpec_cons (n : Node) (i : Nat) (r : List Nat) :
    popSpec n (i :: r) = lift n i (popSpec (n.child i) r) := by
  rw [popSpec]

theorem popSpec_single (n : Node) (i : Nat) :
    popSpec n [i] = if i < n.nVals then some [i] else none := by
  rw [popSpec_cons, popSpec, lift]

theorem popSpec_snoc : ∀ (a : List Nat) (root : Node) (i : Nat) (n : Node) (x : Nat),
    nodeAt root (a ++ [i]) = some (n, x) →
    popSpec root (a ++ [i]) = if i < n.nVals then some (a ++ [i]) else popSpec root a := by
  intro a
  induction a with
  | nil =>
    intro root i n x h
    simp only [List.nil_append, nodeAt_single, Option.some.injEq, Prod.mk.injEq] at h
    obtain ⟨rfl, _⟩ := h
    rw [List.nil_append, popSpec_single, popSpec]
  | cons j a ih =>
    intro root i n x h
    rw [List.cons_append] at h ⊢
    obtain ⟨-, h'⟩ := nodeAt_cons_some (by simp) h
    rw [popSpec_cons, ih _ i n x h', popSpec_cons]
    split <;> rfl

/-- `popEnds` on a non-empty stack without the model's inner `match up`: for `up = []` the model
answers `none` itself, and so does the recursive call on the empty stack -/
theorem popEnds_cons (root : Node) (f i : Nat) (up : List Nat) :
    popEnds root (f + 1) (i :: up) =
      match nodeAt root (up.reverse ++ [i]) with
      | none => none
      | some (n, _) => if i < n.nVals then some (up.reverse ++ [i]) else popEnds root f up := by
  cases up with
  | nil => cases f <;> simp [popEnds, ← Nat.not_lt] <;> rfl
  | cons j up => simp [popEnds, ← Nat.not_lt]; rfl

theorem popEnds_eq (root : Node) : ∀ (fuel : Nat) (a : List Nat), a.length < fuel →
    (nodeAt root a).isSome → popEnds root fuel a.reverse = popSpec root a := by
  intro fuel
  induction fuel with
  | zero => intro a h; omega
  | succ f ih =>
    intro a hlen hsome
    rcases List.eq_nil_or_concat a with rfl | ⟨a', i, rfl⟩
    · simp [nodeAt_nil] at hsome
    · obtain ⟨⟨n, x⟩, hx⟩ := Option.isSome_iff_exists.1 hsome
      rw [List.concat_eq_append] at hx hlen hsome ⊢
      rw [List.reverse_append, List.reverse_singleton, List.singleton_append, popEnds_cons,
        List.reverse_reverse, hx, popSpec_snoc a' root i n x hx]
      simp only
      split
      · rfl
      · by_cases ha : a' = []
        · subst ha; cases f <;> rfl
        · exact ih a' (by simp at hlen; omega) (nodeAt_snoc_isSome a' root i ha hsome)

theorem lift_vi (n : Node) (i : Nat) (r : Iter)
    (hr : ∀ q, r = some q → n.isLeaf = false ∧ ValidIter (n.child i) q) :
    ∀ q, lift n i r = some q → ValidIter n q := by
  fun_cases lift n i r with
  | case1 q' =>
    rintro _ ⟨⟩
    obtain ⟨hn, hv⟩ := hr q' rfl
    exact (vi_cons _ _ _ (fun h0 => vi_nil _ (h0 ▸ hv))).2 ⟨hn, hv⟩
  | case2 h =>
    rintro _ ⟨⟩
    exact (vi_single _ _).2 h
  | case3 h => nofun

theorem popSpec_vi (p : List Nat) (n : Node) :
    ∀ (q : List Nat), popSpec n p = some q → ValidIter n q := by
  fun_induction popSpec n p with
  | case1 => nofun
  | case2 n i r ih =>
    refine lift_vi n i _ fun q' hq' => ⟨?_, ih _ hq'⟩
    cases n with
    | leaf id vs => exact absurd (ih _ hq') (vi_default _)
    | inode id vs cs => rfl

theorem rank_end {c : Cfg} {rt : Bool} {h : Nat} {n : Node} (hs : Shape c rt h n) :
    rank n [n.nVals] = n.elems.length := by
  cases n with
  | leaf id vs => rw [rank_leaf]; rfl
  | inode id vs cs =>
    obtain ⟨h', _, _, _, _, h3, _⟩ := shape_inode.1 hs
    rw [rank_inode, rank_nil, elems_inode, interleave_at (i := vs.length) (Nat.le_refl _) h3,
      List.append_assoc, suff_drop_ge cs vs _ h3 (Nat.le_refl _)]
    simp [nVals_inode]

theorem pos_lift {c : Cfg} {rt : Bool} {h : Nat} {n : Node} (hs : Shape c rt h n) {i : Nat}
    (hi : i ≤ n.nVals) (r : Iter) : pos n (lift n i r) = rank n (i :: r.getD []) := by
  fun_cases lift n i r with
  | case1 | case2 => rfl
  | case3 h =>
    obtain rfl : i = n.nVals := by omega
    exact (pos_none n).trans (rank_end hs).symm

theorem increment_single (n : Node) (i : Nat) :
    increment n [i] =
      if n.isLeaf then (if i + 1 < n.nVals then some [i + 1] else none)
      else some ((i + 1) :: leftmost (height n) (n.child (i + 1))) := by
  unfold increment
  rw [nodeAt_single]
  cases hl : n.isLeaf
  · simp [hl]
  · simp only [hl, if_true, List.dropLast_singleton, List.nil_append, List.reverse_singleton,
      List.length_singleton]
    rw [popEnds_cons]
    simp only [List.reverse_nil, List.nil_append, nodeAt_single]
    split <;> rfl

theorem increment_cons (n : Node) (i : Nat) (r : List Nat) (hn : n.isLeaf = false) (hr : r ≠ [])
    (hsome : (nodeAt (n.child i) r).isSome) :
    increment n (i :: r) = lift n i (increment (n.child i) r) := by
  obtain ⟨⟨m, j⟩, hx⟩ := Option.isSome_iff_exists.1 hsome
  unfold increment
  rw [nodeAt_cons n i r hr hn, hx]
  simp only
  have hne : r.dropLast ++ [j + 1] ≠ [] := by simp
  have hpos : 0 < r.length := List.length_pos_iff.2 hr
  cases hm : m.isLeaf
  · simp only [Bool.false_eq_true, if_false, lift, List.dropLast_cons_of_ne_nil hr,
      List.cons_append]
  · simp only [if_true]
    rw [List.dropLast_cons_of_ne_nil hr, List.cons_append]
    have h1 : nodeAt (n.child i) (r.dropLast ++ [j + 1]) = some (m, j + 1) :=
      nodeAt_dropLast_snoc r _ m j (j + 1) hx
    rw [popEnds_eq n _ (i :: (r.dropLast ++ [j + 1])) (by simp; omega)
        (by rw [nodeAt_cons _ _ _ hne hn, h1]; rfl),
      popEnds_eq (n.child i) _ (r.dropLast ++ [j + 1]) (by simp; omega) (by rw [h1]; rfl),
      popSpec_cons]

theorem inc_rank (c : Cfg) (hm : 1 ≤ c.leafMin) {h : Nat} {rt : Bool} {n : Node}
    (hs : Shape c rt h n) :
    ∀ p, ValidIter n p →
      pos n (increment n p) = rank n p + 1 ∧ ∀ q, increment n p = some q → ValidIter n q := by
  refine shape_ind (fun rt id vs _ => ?_) (fun rt k id vs cs hs h3 h4 ih => ?_) hs <;>
    rintro (_ | ⟨i, rp⟩) hv
  · exact absurd hv (vi_nil _)
  · obtain ⟨rfl, hi⟩ := vi_leaf hv
    rw [increment_single]
    simp only [isLeaf_leaf, if_true, rank_leaf]
    split
    · rename_i h1
      exact ⟨rank_leaf .., fun q hq => by cases hq; exact (vi_single _ _).2 h1⟩
    · rename_i h1
      have : ¬ i + 1 < vs.length := h1
      exact ⟨by rw [pos_none, elems_leaf]; omega, fun q hq => nomatch hq⟩
  · exact absurd hv (vi_nil _)
  · obtain ⟨hic, ⟨rfl, hi⟩ | ⟨hr, hvc⟩⟩ := vi_inode h3 hv
    · have hc1 := shapeAll_getD h4 (i := i + 1) (by omega)
      obtain ⟨lv, lr⟩ := leftmost_spec c hm hc1 (fuel := height (Node.inode id vs cs))
        (by rw [shape_height hs]; omega) (elems_ne_nil hc1 hm)
      rw [increment_single]
      simp only [isLeaf_inode, Bool.false_eq_true, if_false, child_inode]
      refine ⟨?_, fun q hq => ?_⟩
      · rw [pos_some, rank_inode, rank_inode, rank_nil, lr, pref_length_succ cs vs i h3 hi]
      · cases hq
        exact (vi_cons _ _ _ (leftmost_ne_nil _ _)).2 ⟨rfl, by rw [child_inode]; exact lv⟩
    · obtain ⟨e1, e2⟩ := ih _ (shapeAll_getD h4 hic) rp hvc
      have hsome : (nodeAt ((Node.inode id vs cs).child i) rp).isSome := by
        obtain ⟨m, j, hm', _⟩ := hvc
        rw [child_inode, hm']; rfl
      rw [increment_cons (Node.inode id vs cs) i rp rfl hr hsome, child_inode]
      refine ⟨?_, lift_vi _ i _ fun q hq => ⟨rfl, by rw [child_inode]; exact e2 q hq⟩⟩
      rw [pos_lift hs (show i ≤ vs.length by omega), rank_inode, rank_inode]
      exact (congrArg (_ + ·) e1).trans (Nat.add_assoc ..).symm

theorem Mono.of_compatible {cmp : Nat → Int} {l : List Nat} (hs : l.Pairwise (· < ·))
    (hm : Compatible cmp l) : Mono cmp l := by
  refine List.Pairwise.imp_of_mem ?_ hs
  intro a b ha hb hab
  have := hm a b ha hb hab
  omega

theorem findPattern_step (vals : List Nat) (cmp : Nat → Int) (first count cmps : Nat) (eq : Bool)
    (fuel : Nat) (h0 : count ≠ 0) :
    findPattern vals cmp first count cmps eq (fuel + 1) =
      if cmp (vals.getD (first + count / 2) 0) < 0 then
        findPattern vals cmp (first + count / 2 + 1) (count - (count / 2 + 1)) (cmps + 1) eq fuel
      else findPattern vals cmp first (count / 2) (cmps + 1)
        (decide (cmp (vals.getD (first + count / 2) 0) = 0) || eq) fuel := by
  rw [findPattern, if_neg h0]
  dsimp only
  generalize cmp (vals.getD (first + count / 2) 0) = c
  by_cases hz : c = 0
  · simp [hz]
  · by_cases hn : c < 0 <;> simp [hz, hn]

section
variable {cmp : Nat → Int} {vals : List Nat} {first last m x : Nat} {eq : Bool}

theorem findPattern_spec (hm : Mono cmp vals) :
    ∀ (fuel first count cmps : Nat) (eq : Bool), count < fuel →
    Win cmp vals first (first + count) eq →
    Win cmp vals (findPattern vals cmp first count cmps eq fuel).1
      (findPattern vals cmp first count cmps eq fuel).1
      (findPattern vals cmp first count cmps eq fuel).2.1 := by
  intro fuel
  induction fuel with
  | zero => intro first count cmps eq h; omega
  | succ f ih =>
    intro first count cmps eq hf W
    by_cases h0 : count = 0
    · subst h0
      rw [findPattern, if_pos rfl]
      exact W
    · have hh : count / 2 < count := Nat.div_lt_self (Nat.pos_of_ne_zero h0) (by decide)
      have hx := W.get (m := first + count / 2) (by omega)
      rw [findPattern_step _ _ _ _ _ _ _ h0]
      split
      · refine ih _ _ _ _ (by omega) ?_
        rw [show first + count / 2 + 1 + (count - (count / 2 + 1)) = first + count by omega]
        exact W.right hm hx ‹_›
      · exact ih _ _ _ _ (by omega) (W.left hm (by omega) hx ‹_›)
end

theorem findPattern_bounds (vals : List Nat) (cmp : Nat → Int) :
    ∀ (fuel first count cmps : Nat) (eq : Bool) (k : Nat),
    count < 2 ^ k → (findPattern vals cmp first count cmps eq fuel).1 ≤ first + count ∧
      (findPattern vals cmp first count cmps eq fuel).2.2 ≤ cmps + k := by
  intro fuel
  induction fuel with
  | zero => intro first count cmps eq k _; exact ⟨Nat.le_add_right _ _, Nat.le_add_right _ _⟩
  | succ f ih =>
    intro first count cmps eq k hk
    by_cases hc0 : count = 0
    · rw [findPattern, if_pos hc0]; exact ⟨Nat.le_add_right _ _, Nat.le_add_right _ _⟩
    · rw [findPattern_step _ _ _ _ _ _ _ hc0]
      obtain ⟨k', rfl, h1, h2⟩ := halve_lt hc0 hk
      split
      · have := ih (first + count / 2 + 1) (count - (count / 2 + 1)) (cmps + 1) eq k' h2; omega
      · have := ih first (count / 2) (cmps + 1)
          (decide (cmp (vals.getD (first + count / 2) 0) = 0) || eq) k' h1
        omega

theorem nodeFindPattern_bounds {n : Node} {cmp : Nat → Int} {i k K : Nat} {eq : Bool}
    (hnf : nodeFindPattern n cmp = (i, eq, k)) (hk : n.nVals < 2 ^ K) : i ≤ n.nVals ∧ k ≤ K := by
  have := findPattern_bounds n.vals cmp (n.nVals + 1) 0 n.nVals 0 false K hk
  rw [← nodeFindPattern, hnf] at this
  simpa using this

theorem nodeFindPattern_spec {n : Node} {cmp : Nat → Int} {i k : Nat} {eq : Bool}
    (hnf : nodeFindPattern n cmp = (i, eq, k)) (hm : Mono cmp n.vals) : Win cmp n.vals i i eq := by
  have := findPattern_spec hm (n.nVals + 1) 0 n.nVals 0 false (Nat.lt_succ_self _) (.init cmp n)
  rwa [← nodeFindPattern, hnf] at this

/-- found-level bookkeeping of `lowerBoundNode` -/
def flUp (fl : Option Nat) (eq : Bool) : Option Nat :=
  match fl with
  | some d => some (d + 1)
  | none => if eq then some 0 else none

theorem lowerBoundNode_leaf {f : Nat} {cmp : Nat → Int} {n : Node} {i k : Nat} {eq : Bool}
    (hn : n.isLeaf = true) (hnf : nodeFindPattern n cmp = (i, eq, k)) :
    lowerBoundNode cmp (f + 1) n = ([i], eq, none, k) := by
  simp only [lowerBoundNode, hnf, hn, if_true]

theorem lowerBoundNode_inode {f : Nat} {cmp : Nat → Int} {n : Node} {i k : Nat} {eq : Bool}
    (hn : n.isLeaf = false) (hnf : nodeFindPattern n cmp = (i, eq, k)) :
    lowerBoundNode cmp (f + 1) n =
      (i :: (lowerBoundNode cmp f (n.child i)).1, (lowerBoundNode cmp f (n.child i)).2.1,
       flUp (lowerBoundNode cmp f (n.child i)).2.2.1 eq,
       k + (lowerBoundNode cmp f (n.child i)).2.2.2) := by
  simp only [lowerBoundNode, hnf, hn, flUp]
  rfl

/-- the post-processing of `Tree.lowerBound` -/
def lbFinish (root : Node) (p : List Nat) (leq : Bool) (fl : Option Nat) : Iter :=
  if leq then some p
  else
    match nodeAt root p with
    | none => none
    | some (n, i) =>
      if i = n.nVals then
        match fl with
        | some d => some (p.take (d + 1))
        | none => popEnds root (p.length + 1) p.reverse
      else some p

theorem lowerBound_eq (t : Tree) (cmp : Nat → Int) :
    t.lowerBound cmp =
      (lbFinish t.root (lowerBoundNode cmp (height t.root) t.root).1
        (lowerBoundNode cmp (height t.root) t.root).2.1
        (lowerBoundNode cmp (height t.root) t.root).2.2.1,
       (lowerBoundNode cmp (height t.root) t.root).2.2.2) := by
  fun_cases Tree.lowerBound t cmp <;> simp [lbFinish, *]

theorem lowerBoundNode_cmps (c : Cfg) (hc : c.Valid) (cmp : Nat → Int) {h : Nat} {rt : Bool}
    {n : Node} (hs : Shape c rt h n) :
    (lowerBoundNode cmp h n).2.2.2 ≤ h * (Nat.log2 c.leafMax + 1) := by
  refine shape_ind (fun rt id vs hs => ?_) (fun rt k id vs cs hs h3 h4 ih => ?_) hs
  · rcases hnf : nodeFindPattern (.leaf id vs) cmp with ⟨i, eq, k⟩
    rw [lowerBoundNode_leaf rfl hnf]
    have := (nodeFindPattern_bounds hnf (shape_lt_pow hc hs)).2
    simp only
    omega
  · rcases hnf : nodeFindPattern (.inode id vs cs) cmp with ⟨i, eq, kk⟩
    obtain ⟨hle, hfp⟩ := nodeFindPattern_bounds hnf (shape_lt_pow hc hs)
    have := ih _ (shapeAll_getD h4 (i := i) (by have : i ≤ vs.length := hle; omega))
    rw [lowerBoundNode_inode rfl hnf, Nat.succ_mul, child_inode]
    simp only
    omega

theorem findIdx_append_neg {α : Type} {p : α → Bool} {a : List α} (b : List α)
    (h : ∀ x ∈ a, p x = false) :
    (a ++ b).findIdx p = a.length + b.findIdx p := by
  have : a.findIdx p = a.length := List.findIdx_eq_length.2 (by simpa using h)
  rw [List.findIdx_append, this, if_neg (Nat.lt_irrefl _), Nat.add_comm]

theorem findIdx_head {α : Type} {p : α → Bool} {b : List α}
    (h : ∀ x, b.head? = some x → p x = true) : b.findIdx p = 0 := by
  cases b with
  | nil => rfl
  | cons x b => simp [List.findIdx_cons, h x rfl]

theorem findIdx_append_head {α : Type} {p : α → Bool} (a : List α) {b : List α}
    (h : ∀ x, b.head? = some x → p x = true) :
    (a ++ b).findIdx p = a.findIdx p := by
  rw [List.findIdx_append, findIdx_head h]
  split
  · rfl
  · have := List.findIdx_le_length (p := p) (xs := a)
    omega

theorem Win.parts {c : Cfg} {rt : Bool} {h : Nat} {id vs cs} {cmp : Nat → Int} {i : Nat} {eq : Bool}
    (hs : Shape c rt h (.inode id vs cs)) (hm : Mono cmp (interleave cs vs))
    (W : Win cmp vs i i eq) :
    (∀ a ∈ pref (cs.take i) (vs.take i), cmp a < 0) ∧ Mono cmp (cs.getD i (.leaf 0 [])).elems ∧
    (eq = true → ∀ a ∈ (cs.getD i (.leaf 0 [])).elems, cmp a ≤ 0) := by
  obtain ⟨h', -, -, -, -, h3, -⟩ := shape_inode.1 hs
  rw [Mono, interleave_at (i := i) W.le h3, List.append_assoc, List.pairwise_append,
    List.pairwise_append] at hm
  obtain ⟨s1, ⟨s2, -, s5⟩, -⟩ := hm
  refine ⟨pref_all (fun x v h hv => ?_) _ _ s1 W.neg_take, s2, fun he a ha => ?_⟩
  · have := h.2; omega
  · obtain ⟨v, hv, hz⟩ := W.eq_iff.1 he
    obtain ⟨hi, rfl⟩ := List.getElem?_eq_some_iff.1 hv
    have := (s5 a ha vs[i] (by rw [suff_drop_lt cs vs i hi]; simp)).1
    omega

/-- Where `zix_btree_lower_bound` ends: `popSpec` of the search path stands at the first element
that is not negative under a sign-monotone `cmp` (at the end if there is none). -/
theorem lowerBoundNode_pos (c : Cfg) (cmp : Nat → Int) {h : Nat} {rt : Bool} {n : Node}
    (hs : Shape c rt h n) :
    Mono cmp n.elems →
    pos n (popSpec n (lowerBoundNode cmp h n).1) =
      n.elems.findIdx (fun v => decide (0 ≤ cmp v)) := by
  refine shape_ind (fun rt id vs hs => ?_) (fun rt k id vs cs hs h3 h4 ih => ?_) hs <;> intro hm
  · rw [elems_leaf] at hm ⊢
    rcases hnf : nodeFindPattern (.leaf id vs) cmp with ⟨i, eq, k⟩
    have W : Win cmp vs i i eq := nodeFindPattern_spec hnf hm
    have hle : i ≤ vs.length := W.le
    rw [lowerBoundNode_leaf rfl hnf, popSpec_cons, popSpec, pos_lift hs hle, rank_leaf]
    rw [← List.take_append_drop i vs, findIdx_append_neg _ fun x hx => ?_,
      findIdx_head fun x hx => ?_, List.length_take, Nat.min_eq_left hle]
    · rfl
    · rw [List.head?_drop] at hx
      simpa using W.nonneg x hx
    · have := W.neg_take x hx
      simp only [decide_eq_false_iff_not]; omega
  · rw [elems_inode] at hm ⊢
    rcases hnf : nodeFindPattern (.inode id vs cs) cmp with ⟨i, eq, kk⟩
    have W : Win cmp vs i i eq :=
      nodeFindPattern_spec hnf (hm.sublist (vals_sublist cs vs (by omega)))
    obtain ⟨f2, f3, -⟩ := W.parts hs hm
    have hle : i ≤ vs.length := W.le
    rw [lowerBoundNode_inode rfl hnf, popSpec_cons, child_inode, pos_lift hs hle, rank_inode]
    rw [interleave_at (i := i) hle h3, List.append_assoc, findIdx_append_neg _ fun a ha => ?_,
      findIdx_append_head _ fun x hx => ?_]
    · exact congrArg (_ + ·) (ih _ (shapeAll_getD h4 (by omega)) f3)
    · rw [suff_drop_head cs vs i h3] at hx
      simpa using W.nonneg x hx
    · have := f2 a ha
      simp only [decide_eq_false_iff_not]; omega

theorem lowerBoundNode_nodeAt (cmp : Nat → Int) (f : Nat) (n : Node) :
    (nodeAt n (lowerBoundNode cmp f n).1).isSome := by
  fun_induction lowerBoundNode cmp f n with
  | case1 | case2 => rfl
  | case3 fuel n i eq k hnf hl p leq fl k' hr fl' ih =>
    rw [hr] at ih
    have hne : p ≠ [] := by rintro rfl; simp [nodeAt_nil] at ih
    rw [nodeAt_cons _ _ _ hne (by simpa using hl)]; exact ih

theorem Win.at_end {cmp : Nat → Int} {vals : List Nat} {i : Nat} (W : Win cmp vals i i false)
    (hall : ∀ v ∈ vals, cmp v ≤ 0) : ¬ i < vals.length := by
  intro hi
  have h1 := W.nonneg _ (List.getElem?_eq_getElem hi)
  have h2 := hall _ (List.getElem_mem hi)
  exact Bool.noConfusion (W.eq_iff.2 ⟨_, List.getElem?_eq_getElem hi, by omega⟩)

theorem lowerBoundNode_none (c : Cfg) (cmp : Nat → Int) {h : Nat} {rt : Bool} {n : Node}
    (hs : Shape c rt h n) :
    Mono cmp n.elems → (∀ a ∈ n.elems, cmp a ≤ 0) →
    (lowerBoundNode cmp h n).2.1 = false → (lowerBoundNode cmp h n).2.2.1 = none →
    popSpec n (lowerBoundNode cmp h n).1 = none := by
  refine shape_ind (fun rt id vs _ => ?_) (fun rt k id vs cs hs h3 h4 ih => ?_) hs <;>
    intro hm hall hleq hfl
  · rw [elems_leaf] at hm hall
    rcases hnf : nodeFindPattern (.leaf id vs) cmp with ⟨i, eq, k⟩
    have W : Win cmp vs i i eq := nodeFindPattern_spec hnf hm
    rw [lowerBoundNode_leaf rfl hnf] at hleq ⊢
    obtain rfl : eq = false := hleq
    have hi : ¬ i < (Node.leaf id vs).nVals := W.at_end hall
    rw [popSpec_single, if_neg hi]
  · rw [elems_inode] at hm hall
    rcases hnf : nodeFindPattern (.inode id vs cs) cmp with ⟨i, eq, kk⟩
    have W : Win cmp vs i i eq :=
      nodeFindPattern_spec hnf (hm.sublist (vals_sublist cs vs (by omega)))
    obtain ⟨-, f3, -⟩ := W.parts hs hm
    have hle : i ≤ vs.length := W.le
    rw [lowerBoundNode_inode rfl hnf, child_inode] at hleq hfl ⊢
    rw [popSpec_cons, child_inode]
    simp only at hleq hfl ⊢
    obtain ⟨hflc, rfl⟩ :
        (lowerBoundNode cmp k (cs.getD i (.leaf 0 []))).2.2.1 = none ∧ eq = false := by
      revert hfl
      cases (lowerBoundNode cmp k (cs.getD i (.leaf 0 []))).2.2.1 <;> cases eq <;> simp [flUp]
    have hi : ¬ i < (Node.inode id vs cs).nVals :=
      W.at_end fun v hv => hall v ((vals_sublist cs vs (by omega)).subset hv)
    rw [ih _ (shapeAll_getD h4 (by omega)) f3
        (fun a ha => hall a ((child_sublist hle h3).subset ha)) hleq hflc,
      lift, if_neg hi]

theorem lbFinish_true (n : Node) (p : List Nat) (fl : Option Nat) :
    lbFinish n p true fl = some p := by
  simp [lbFinish]

theorem lbFinish_false (n : Node) (p : List Nat) (fl : Option Nat) (m : Node) (j : Nat)
    (hp : nodeAt n p = some (m, j)) :
    lbFinish n p false fl =
      if j = m.nVals then
        (match fl with
         | some d => some (p.take (d + 1))
         | none => popSpec n p)
      else some p := by
  simp only [lbFinish, Bool.false_eq_true, if_false, hp]
  by_cases hj : j = m.nVals
  · simp only [hj, if_true]
    cases fl with
    | some d => rfl
    | none => exact popEnds_eq n _ p (by omega) (by rw [hp]; rfl)
  · simp only [hj, if_false]

/-- What `zix_btree_lower_bound` makes of its search path (the path itself, its prefix up to
`found_level`, or what popping frames leaves) is in every case `popSpec` of that path. -/
theorem lbFinish_eq (c : Cfg) (cmp : Nat → Int) {h : Nat} {rt : Bool} {n : Node}
    (hs : Shape c rt h n) :
    Mono cmp n.elems →
    lbFinish n (lowerBoundNode cmp h n).1 (lowerBoundNode cmp h n).2.1
        (lowerBoundNode cmp h n).2.2.1 =
      popSpec n (lowerBoundNode cmp h n).1 := by
  refine shape_ind (fun rt id vs _ => ?_) (fun rt k id vs cs hs h3 h4 ih => ?_) hs <;> intro hm
  · rw [elems_leaf] at hm
    rcases hnf : nodeFindPattern (.leaf id vs) cmp with ⟨i, eq, k⟩
    have W : Win cmp vs i i eq := nodeFindPattern_spec hnf hm
    have hle : i ≤ vs.length := W.le
    rw [lowerBoundNode_leaf rfl hnf, popSpec_single]
    simp only
    cases eq with
    | true =>
      obtain ⟨v, hv, _⟩ := W.eq_iff.1 rfl
      have hi : i < (Node.leaf id vs).nVals := (List.getElem?_eq_some_iff.1 hv).1
      rw [lbFinish_true, if_pos hi]
    | false =>
      rw [lbFinish_false _ _ _ _ _ (nodeAt_single _ i)]
      by_cases hi : i = (Node.leaf id vs).nVals
      · rw [if_pos hi, popSpec_single]
      · have hn : (Node.leaf id vs).nVals = vs.length := rfl
        rw [if_neg hi, if_pos (show i < (Node.leaf id vs).nVals by omega)]
  · rw [elems_inode] at hm
    rcases hnf : nodeFindPattern (.inode id vs cs) cmp with ⟨i, eq, kk⟩
    have W : Win cmp vs i i eq :=
      nodeFindPattern_spec hnf (hm.sublist (vals_sublist cs vs (by omega)))
    obtain ⟨-, f3, f4⟩ := W.parts hs hm
    have hle : i ≤ vs.length := W.le
    rw [lowerBoundNode_inode rfl hnf, popSpec_cons, child_inode]
    simp only
    have hic : i < cs.length := by omega
    have hIH := ih _ (shapeAll_getD h4 hic) f3
    have hsome := lowerBoundNode_nodeAt cmp k (cs.getD i (.leaf 0 []))
    have hnone := lowerBoundNode_none c cmp (shapeAll_getD h4 hic) f3
    generalize lowerBoundNode cmp k (cs.getD i (.leaf 0 [])) = R at *
    obtain ⟨p', leq, fl, kk⟩ := R
    simp only at hIH hsome hnone ⊢
    rw [← hIH]
    have hne : p' ≠ [] := by
      intro h0
      rw [h0, nodeAt_nil] at hsome
      simp at hsome
    obtain ⟨⟨m, j⟩, hx⟩ := Option.isSome_iff_exists.1 hsome
    have hx' : nodeAt (Node.inode id vs cs) (i :: p') = some (m, j) := by
      rw [nodeAt_cons _ _ _ hne rfl, child_inode]; exact hx
    cases leq with
    | true => rw [lbFinish_true, lbFinish_true]; rfl
    | false =>
      rw [lbFinish_false _ _ _ _ _ hx, lbFinish_false _ _ _ _ _ hx']
      split
      · cases fl with
        | some d => rfl
        | none =>
          cases eq with
          | false => exact popSpec_cons ..
          | true =>
            -- the separator `i` matched and the walk below saw no match: all below is at its end
            obtain ⟨v, hv, _⟩ := W.eq_iff.1 rfl
            have hi : i < (Node.inode id vs cs).nVals := (List.getElem?_eq_some_iff.1 hv).1
            simp only [flUp, if_true]
            rw [hnone (f4 rfl) rfl rfl, lift, if_pos hi]; rfl
      · rfl

end Zix.BTree.It

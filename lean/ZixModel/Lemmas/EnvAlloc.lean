import ZixModel.Model.EnvAlloc
import ZixModel.Lemmas.Env
/-! The allocating scanner against the value-level scanner, for an arbitrary refusal oracle. -/
namespace Zix.EnvAlloc
open Zix.Env

theorem outstanding_append (l1 l2 : List Ev) (live : List Nat) :
    outstanding (l1 ++ l2) live = (outstanding l1 live).bind (outstanding l2) := by
  fun_induction outstanding l1 live <;> simp [outstanding, *]

/-- The loop invariant: the log so far is well formed, exactly the output block (if any) is
outstanding, and the block holds `content` (nothing allocated yet: `content = []`). -/
def Inv (st : St) (content : List Nat) : Prop :=
  (st.out.map (·.2)).getD [] = content ∧ outstanding st.evs [] = some (st.out.map (·.1)).toList

theorem inv_init : Inv init [] := ⟨rfl, rfl⟩

theorem outstanding_request (old : Option Nat) (n b : Nat) :
    outstanding [.realloc old n (some b)] old.toList = some [b] ∧
    outstanding [.realloc old n none, .free old] old.toList = some [] := by
  cases old <;> simp [outstanding]

theorem appendStr_inv (fails : Nat → Bool) (st : St) (content suffix : List Nat)
    (hg : Inv st content) :
    (∃ st', appendStr fails st suffix = .inl st' ∧ Inv st' (content ++ suffix) ∧
      st'.out.isSome = true) ∨
    (∃ e, appendStr fails st suffix = .inr e ∧ outstanding e [] = some [] ∧
      fails st.req = true) := by
  obtain ⟨hc, ho⟩ := hg
  unfold appendStr
  by_cases hf : fails st.req = true
  · refine Or.inr ⟨_, if_pos hf, ?_, hf⟩
    simp only [refusedEvs, outstanding_append, ho, Option.bind_some]
    exact (outstanding_request _ _ 0).2
  · exact Or.inl
      ⟨_, if_neg hf, ⟨by simp [hc], by simp [outstanding_append, ho, outstanding_request]⟩, rfl⟩

theorem appendTwo_inv (fails : Nat → Bool) (st : St) (content pre text : List Nat)
    (hg : Inv st content) :
    (∃ st', appendTwo fails st pre text = .inl st' ∧ Inv st' (content ++ pre ++ text)) ∨
    (∃ e, appendTwo fails st pre text = .inr e ∧ outstanding e [] = some [] ∧
      ∃ k, fails k = true) := by
  by_cases hp : pre = []
  · subst hp
    rcases appendStr_inv fails st content text hg with ⟨st', h1, h2, _⟩ | ⟨e, h1, h2, h3⟩
    · left; exact ⟨st', by simp [appendTwo, h1], by simpa using h2⟩
    · right; exact ⟨e, by simp [appendTwo, h1], h2, _, h3⟩
  · rcases appendStr_inv fails st content pre hg with ⟨st1, h1, h2, _⟩ | ⟨e, h1, h2, h3⟩
    · rcases appendStr_inv fails st1 (content ++ pre) text h2 with
        ⟨st', h4, h5, _⟩ | ⟨e, h4, h5, h6⟩
      · left; exact ⟨st', by simp [appendTwo, hp, h1, h4], h5⟩
      · right; exact ⟨e, by simp [appendTwo, hp, h1, h4], h5, _, h6⟩
    · right; exact ⟨e, by simp [appendTwo, hp, h1], h2, _, h3⟩

/-- What a finished call must look like when the value-level scanner yields `value`: the
conclusion of `C07Env.expandA_atomic_leak_free`. -/
def Outcome (fails : Nat → Bool) (value : List Nat) (r : Result) : Prop :=
  (r.ret = none ∧ outstanding r.evs [] = some [] ∧ ∃ k, fails k = true) ∨
  (∃ b, r.ret = some (b, value) ∧ outstanding r.evs [] = some [b])

theorem Inv.outcome {fails : Nat → Bool} {st : St} {value : List Nat} (hg : Inv st value)
    (hs : st.out.isSome = true) : Outcome fails value ⟨st.out, st.evs⟩ := by
  cases h : st.out with
  | none => simp [h] at hs
  | some bc => simp only [Inv, h] at hg; exact Or.inr ⟨bc.1, by simp [← hg.1], hg.2⟩

theorem ite_rel {α β : Type} (R : α → β → Prop) {c : Prop} [Decidable c] {a a' : α} {b b' : β}
    (h1 : c → R a b) (h2 : ¬c → R a' b') : R (if c then a else a') (if c then b else b') := by
  split
  · next h => exact h1 h
  · next h => exact h2 h

theorem loop_rel (fails : Nat → Bool) (env : List (List Nat)) (str : List Nat) :
    ∀ (fuel s start : Nat) (st : St) (content : List Nat), Inv st content →
    ∀ value, Env.loop env str fuel s start content = some value →
    ∃ r, loop fails env str fuel s start st = some r ∧ Outcome fails value r := by
  intro fuel
  induction fuel with
  | zero => intro s start st content _ value hv; simp [Env.loop] at hv
  | succ fuel ih =>
    intro s start st content hg
    -- both places where a reference is replaced: `appendTwo`, then on with the loop
    have emit : ∀ pre text s' value,
        Env.loop env str fuel s' s' (content ++ pre ++ text) = some value →
        ∃ r, (match appendTwo fails st pre text with
          | .inl st' => loop fails env str fuel s' s' st'
          | .inr e => some ⟨none, e⟩) = some r ∧ Outcome fails value r := by
      intro pre text s' value hv
      rcases appendTwo_inv fails st content pre text hg with ⟨st', h3, h4⟩ | ⟨e, h3, h4, h5⟩
      · rw [h3]; exact ih _ _ st' _ h4 value hv
      · rw [h3]; exact ⟨_, rfl, Or.inl ⟨rfl, h4, h5⟩⟩
    -- the two scanners run through the same tree of tests
    have step := @ite_rel _ _
      (fun v r => ∀ value, v = some value → ∃ r', r = some r' ∧ Outcome fails value r')
    rw [Env.loop, loop]
    refine step (fun _ value hv => ?_) fun _ => step (fun _ => emit _ _ _) fun _ =>
      step (fun _ => emit _ _ _) fun _ => ih _ _ st _ hg
    cases Option.some.inj hv
    simp only []
    split
    · rcases appendStr_inv fails st content (str.drop start) hg with
        ⟨st', h1, h2, h3⟩ | ⟨e, h1, h2, h3⟩
      · rw [h1]; exact ⟨_, rfl, Inv.outcome h2 h3⟩
      · rw [h1]; exact ⟨_, rfl, Or.inl ⟨rfl, h2, _, h3⟩⟩
    · next ht =>
      obtain ⟨ht1, ht2⟩ := not_or.1 ht
      rw [Decidable.not_not] at ht1
      exact ⟨_, rfl, Inv.outcome (by simpa [ht1] using hg)
        (by simpa [Option.isSome_iff_ne_none] using ht2)⟩

theorem appendStr_congr (f g : Nat → Bool) (st : St) (suffix : List Nat) (h : f st.req = g st.req) :
    appendStr f st suffix = appendStr g st suffix := by
  simp [appendStr, h]

theorem appendStr_req (f : Nat → Bool) (st st' : St) (suffix : List Nat)
    (h : appendStr f st suffix = .inl st') : st'.req = st.req + 1 := by
  revert h
  fun_cases appendStr f st suffix
  · intro h; cases h
  · intro h
    cases h
    rfl

theorem appendTwo_congr (f g : Nat → Bool) (st : St) (pre text : List Nat)
    (h : ∀ k, k < st.req + 2 → f k = g k) :
    appendTwo f st pre text = appendTwo g st pre text ∧
    ∀ st', appendTwo g st pre text = .inl st' → st'.req ≤ st.req + 2 := by
  by_cases hp : pre = []
  · subst hp
    simp only [appendTwo, if_true]
    refine ⟨appendStr_congr f g st text (h _ (by omega)), ?_⟩
    intro st' h1
    have := appendStr_req g st st' text h1; omega
  · simp only [appendTwo, hp, if_false]
    rw [appendStr_congr f g st pre (h _ (by omega))]
    cases h1 : appendStr g st pre with
    | inr e => simp
    | inl st1 =>
      have hr := appendStr_req g st st1 pre h1
      refine ⟨appendStr_congr f g st1 text (h _ (by omega)), ?_⟩
      intro st' h2
      have := appendStr_req g st1 st' text h2; omega

/-- Each turn of the loop makes at most two requests (the last turn one): hence `2 * fuel`. -/
theorem loop_congr (f g : Nat → Bool) (env : List (List Nat)) (str : List Nat) :
    ∀ (fuel s start : Nat) (st : St), (∀ k, k < st.req + 2 * fuel → f k = g k) →
    loop f env str fuel s start st = loop g env str fuel s start st := by
  intro fuel
  induction fuel with
  | zero => intros; rfl
  | succ fuel ih =>
    intro s start st hfg
    have emit : ∀ pre text s',
        (match appendTwo f st pre text with
          | .inl st' => loop f env str fuel s' s' st'
          | .inr e => some ⟨none, e⟩)
        = (match appendTwo g st pre text with
          | .inl st' => loop g env str fuel s' s' st'
          | .inr e => some ⟨none, e⟩) := by
      intro pre text s'
      obtain ⟨e1, e2⟩ := appendTwo_congr f g st pre text (fun k hk => hfg k (by omega))
      rw [e1]
      split
      · next st' h3 =>
        have := e2 st' h3
        exact ih _ _ st' (fun k hk => hfg k (by omega))
      · rfl
    -- the two sides are the same tree of tests; they differ only where the oracle is asked
    rw [loop, loop]
    exact ite_congr rfl
      (fun _ => by simp only [appendStr_congr f g st _ (hfg _ (by omega))]) fun _ =>
      ite_congr rfl (fun _ => emit _ _ _) fun _ =>
      ite_congr rfl (fun _ => emit _ _ _) fun _ => ih _ _ st (fun k hk => hfg k (by omega))

end Zix.EnvAlloc

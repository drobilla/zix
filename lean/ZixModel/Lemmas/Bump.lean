import ZixModel.Spec.Bump
/-! Every request of the bump-allocator model keeps the invariant `Inv`.  The `size_t` computations
are first shown to agree with unbounded arithmetic; a granted request is then one or two of five
moves on the state (`Inv.push`, `skip`, `resize`, `remove`, `pop`), each of which keeps the
invariant. -/
namespace Zix.Bump

theorem Apart.off_ne {a b : Block} (h : Apart a b) : a.off ≠ b.off := by
  unfold Apart at h; omega

section
variable {s : State} {b : Block} (hi : Inv s) (hb : b ∈ s.live)
include hi hb

theorem Inv.blk_aligned : (s.base + b.off) % 8 = 0 := (hi.blk b hb).1

theorem Inv.blk_top : b.off + b.size ≤ s.top ∧ b.off < s.top :=
  ⟨(hi.blk b hb).2.1, (hi.blk b hb).2.2.1⟩

theorem Inv.blk_last : b.off = s.last ∨ (b.off + b.size ≤ s.last ∧ b.off < s.last) :=
  (hi.blk b hb).2.2.2.1

theorem Inv.blk_id : b.id < s.next := (hi.blk b hb).2.2.2.2

end

/-! `W` stays a name in the arithmetic: what is used of `2^64` is that it is a multiple of 8 above
8. -/

theorem mod_W_le {a : Nat} (h : W ≤ a) : a % W + W ≤ a := by
  have h1 := Nat.mod_add_div a W
  have h2 : W * 1 ≤ W * (a / W) := Nat.mul_le_mul_left W (Nat.div_pos h (by decide))
  omega

theorem roundUp_eq (n f : Nat) : roundUp n f = (n + f - 1) % W / f * f :=
  Nat.div_mul_self_eq_mod_sub_self.symm

/-- The bytes a request of `n` occupies, in unbounded arithmetic: `realSize` without wrap-around. -/
def idealSize (n : Nat) : Nat := ru8 (if n = 0 then 1 else n)

/-- The C09 statements spell the ideal size out. -/
theorem idealSize_def (n : Nat) : idealSize n = ru8 (if n = 0 then 1 else n) := rfl

theorem idealSize_spec (n : Nat) : n ≤ idealSize n ∧ 0 < idealSize n ∧ idealSize n % 8 = 0 := by
  unfold idealSize ru8; split <;> omega

/-- When the ideal size does not fit in `size_t`, `realSize n < n`: that is how the C code detects
the overflow. -/
theorem realSize_spec (n : Nat) :
    (realSize n = idealSize n ∧ idealSize n < W) ∨ (realSize n < n ∧ W ≤ idealSize n) := by
  have hm : (if n = 0 then 1 else n) = n ∨ (if n = 0 then 1 else n) = 1 := by split <;> omega
  have hW : 8 < W ∧ W = W / 8 * 8 := by decide
  unfold realSize idealSize minAlign
  rw [roundUp_eq]
  generalize (if n = 0 then 1 else n) = m at *
  show ((m + 7) % W / 8 * 8 = (m + 7) / 8 * 8 ∧ (m + 7) / 8 * 8 < W) ∨
    ((m + 7) % W / 8 * 8 < n ∧ W ≤ (m + 7) / 8 * 8)
  by_cases h : m + 7 < W
  · rw [Nat.mod_eq_of_lt h]
    exact .inl ⟨rfl, Nat.lt_of_le_of_lt (Nat.div_mul_le_self _ _) h⟩
  · have := mod_W_le (Nat.le_of_not_lt h)
    refine .inr ⟨Nat.lt_of_le_of_lt (Nat.div_mul_le_self _ _) (by omega), ?_⟩
    rw [hW.2]
    exact Nat.mul_le_mul_right 8 (Nat.div_le_div_right (Nat.le_of_not_lt h))

/-- Left: the test by which `malloc` and `realloc` refuse `n` bytes at offset `t`, as the C code
makes it. -/
theorem refuse_iff {n t cap : Nat} (hc : cap < W) :
    (realSize n < n ∨ t > cap ∨ realSize n > cap - t) ↔ cap < t + idealSize n := by
  have := idealSize_spec n
  rcases realSize_spec n with ⟨h, _⟩ | ⟨h1, h2⟩
  · rw [h]; omega
  · exact ⟨fun _ => by omega, fun _ => .inl h1⟩

theorem realSize_eq {n t cap : Nat} (hc : cap < W) (h : ¬ cap < t + idealSize n) :
    realSize n = idealSize n := by
  rcases realSize_spec n with ⟨h, _⟩ | ⟨_, h2⟩
  · exact h
  · omega

/-- `(roundUp x a + W - x) % W` is the skip `alignedAlloc` computes in `size_t` in front of a block
at address `x`. -/
theorem alignSkip_spec {x a : Nat} (ha : 0 < a) (haW : a < W) :
    a ∣ x + (roundUp x a + W - x) % W ∨ W ≤ x + (roundUp x a + W - x) % W := by
  unfold roundUp
  by_cases h : x + a - 1 < W
  · have hlo : x ≤ x + a - 1 - (x + a - 1) % a := by
      have := Nat.mod_lt (x + a - 1) ha
      omega
    have hhi : x + a - 1 - (x + a - 1) % a < W := Nat.lt_of_le_of_lt (Nat.sub_le _ _) h
    rw [Nat.mod_eq_of_lt h, Nat.sub_add_comm hlo, Nat.add_mod_right,
      Nat.mod_eq_of_lt (Nat.lt_of_le_of_lt (Nat.sub_le _ _) hhi), Nat.add_sub_cancel' hlo]
    exact .inl (Nat.dvd_sub_mod _)
  · -- the rounded address fell below `x`, so the subtraction modulo `W` gives `W` too much
    have h1 := mod_W_le (Nat.le_of_not_lt h)
    have h2 := Nat.sub_le ((x + a - 1) % W) ((x + a - 1) % W % a)
    generalize (x + a - 1) % W - (x + a - 1) % W % a = r at *
    rw [Nat.mod_eq_of_lt (by omega)]
    exact .inr (by omega)

theorem calloc_eq (s : State) (n m : Nat) :
    calloc s n m = if W ≤ n * m then (s, none) else malloc s (n * m) := by
  have hg : (m ≠ 0 ∧ n > (W - 1) / m) ↔ W ≤ n * m := by
    rcases Nat.eq_zero_or_pos m with rfl | hm
    · exact ⟨fun h => absurd rfl h.1, fun h => absurd h (by rw [Nat.mul_zero]; decide)⟩
    · rw [gt_iff_lt, Nat.div_lt_iff_lt_mul hm]
      have : 0 < W := by decide
      omega
  unfold calloc
  simp only [hg]

/-- `malloc` with `mallocRaw` inlined, the test still in `size_t` as the C code makes it;
`malloc_eq` has it in unbounded arithmetic. -/
theorem malloc_def (s : State) (n : Nat) :
    malloc s n = if realSize n < n ∨ s.top > s.cap ∨ realSize n > s.cap - s.top then (s, none)
      else (grant { s with last := s.top, top := s.top + realSize n } s.top n, some s.top) := by
  unfold malloc
  fun_cases mallocRaw s n with
  | case1 rs h => exact (if_pos h).symm
  | case2 rs h => exact (if_neg h).symm

theorem malloc_refused {s s' : State} {n : Nat} (h : malloc s n = (s', none)) : s' = s := by
  rw [malloc_def] at h
  split at h <;> cases h
  rfl

theorem calloc_refused {s s' : State} {n m : Nat} (h : calloc s n m = (s', none)) : s' = s := by
  revert h
  fun_cases calloc s n m
  · intro h
    cases h
    rfl
  · exact malloc_refused

theorem realloc_refused {s s' : State} {off n : Nat} (h : realloc s off n = (s', none)) :
    s' = s := by
  revert h
  fun_cases realloc s off n
  · intro h
    cases h
    rfl
  · intro h
    cases h
    rfl
  · intro h; cases h

theorem alignedAlloc_refused {s s' : State} {a n : Nat} (h : alignedAlloc s a n = (s', none)) :
    s' = s := by
  revert h
  fun_cases alignedAlloc s a n
  · intro h
    cases h
    rfl
  · intro h; cases h
  · intro h
    cases h
    rfl

theorem malloc_eq {s : State} (hc : s.cap < W) (n : Nat) :
    malloc s n = if s.cap < s.top + idealSize n then (s, none)
      else (grant { s with last := s.top, top := s.top + idealSize n } s.top n, some s.top) := by
  rw [malloc_def]
  simp only [refuse_iff hc]
  split
  · rfl
  · rename_i h; rw [realSize_eq hc h]

theorem malloc_some {s s' : State} (hc : s.cap < W) {n off : Nat}
    (h : malloc s n = (s', some off)) :
    off = s.top ∧ s.top + idealSize n ≤ s.cap := by
  rw [malloc_eq hc] at h
  split at h
  · cases h
  · cases h; exact ⟨rfl, by omega⟩

theorem realloc_eq {s : State} (hc : s.cap < W) (off n : Nat) :
    realloc s off n =
      if off ≠ s.last ∨ s.top ≤ s.last ∨ s.cap < s.last + idealSize n then (s, none)
      else
        ({ s with
            top := s.last + idealSize n,
            live := s.live.map (fun b => if b.off = off then { b with size := n } else b) },
          some off) := by
  fun_cases realloc s off n with
  | case1 h1 => exact (if_pos (by omega)).symm  -- not the most recent block, or that one freed
  | case2 h1 rs h => exact (if_pos (.inr (.inr ((refuse_iff hc).mp h)))).symm
  | case3 h1 rs h =>
    have h := mt (refuse_iff hc).mpr h
    rw [if_neg (by omega), ← realSize_eq hc h]

theorem Inv.cap_lt {s : State} (hi : Inv s) : s.cap < W :=
  Nat.lt_of_le_of_lt (Nat.le_add_left _ _) hi.capW

theorem init_top (base cap : Nat) :
    (base + (init base cap).top) % 8 = 0 ∧ (init base cap).top < 8 := by
  unfold init minAlign
  simp only
  split <;> omega

theorem inv_init (base cap : Nat) (h : base + cap < W) : Inv (init base cap) :=
  ⟨h, (init_top base cap).1, (init_top base cap).1, Nat.le_refl _, .inr rfl,
    fun _ hb => (nomatch hb), .nil, .nil⟩

theorem Inv.push {s : State} (hi : Inv s) {n r : Nat} (hn : n ≤ r) (h0 : 0 < r)
    (h8 : r % 8 = 0) (hfit : s.top + r ≤ s.cap) :
    Inv (grant { s with last := s.top, top := s.top + r } s.top n) := by
  have htA := hi.topA
  refine ⟨hi.capW, ?_, htA, Nat.le_add_right _ _, .inl hfit, ?_, ?_, ?_⟩
  · show (s.base + (s.top + r)) % 8 = 0; omega
  · intro b hb
    rcases List.mem_cons.mp hb with rfl | hb
    · exact ⟨htA, Nat.add_le_add_left hn _, Nat.lt_add_of_pos_right h0, .inl rfl,
        Nat.lt_succ_self _⟩
    · have ht := hi.blk_top hb
      exact ⟨hi.blk_aligned hb, Nat.le_trans ht.1 (Nat.le_add_right _ _),
        Nat.lt_of_lt_of_le ht.2 (Nat.le_add_right _ _), .inr ht, Nat.lt_succ_of_lt (hi.blk_id hb)⟩
  · exact List.pairwise_cons.mpr ⟨fun _ hb => .inr (hi.blk_top hb), hi.disj⟩
  · exact List.pairwise_cons.mpr ⟨fun _ hb => Nat.ne_of_gt (hi.blk_id hb), hi.ids⟩

theorem Inv.skip {s : State} (hi : Inv s) {d : Nat} (h8 : (s.base + s.top + d) % 8 = 0)
    (hfit : s.top + d ≤ s.cap) : Inv { s with top := s.top + d } :=
  ⟨hi.capW, Nat.add_assoc .. ▸ h8, hi.lastA, Nat.le_trans hi.lastLe (Nat.le_add_right _ _),
    .inl hfit,
    fun _ hb => have ht := hi.blk_top hb
      ⟨hi.blk_aligned hb, Nat.le_trans ht.1 (Nat.le_add_right _ _),
        Nat.lt_of_lt_of_le ht.2 (Nat.le_add_right _ _), hi.blk_last hb, hi.blk_id hb⟩,
    hi.disj, hi.ids⟩

theorem Inv.resize {s : State} (hi : Inv s) {n r : Nat} (hn : n ≤ r) (h0 : 0 < r)
    (h8 : r % 8 = 0) (hfit : s.last + r ≤ s.cap) :
    Inv { s with
      top := s.last + r,
      live := s.live.map (fun b => if b.off = s.last then { b with size := n } else b) } := by
  have hlA := hi.lastA
  refine ⟨hi.capW, ?_, hlA, Nat.le_add_right _ _, .inl hfit, ?_, ?_, ?_⟩
  · show (s.base + (s.last + r)) % 8 = 0; omega
  · intro x hx
    obtain ⟨b, hb, rfl⟩ := List.mem_map.mp hx
    have hA := hi.blk_aligned hb
    have hid := hi.blk_id hb
    split
    · rename_i e
      exact ⟨hA, e ▸ Nat.add_le_add_left hn _, e ▸ Nat.lt_add_of_pos_right h0, .inl e, hid⟩
    · rename_i e
      have := (hi.blk_last hb).resolve_left e
      exact ⟨hA, Nat.le_trans this.1 (Nat.le_add_right _ _),
        Nat.lt_of_lt_of_le this.2 (Nat.le_add_right _ _), .inr this, hid⟩
  · refine List.pairwise_map.mpr (hi.disj.imp_of_mem ?_)
    intro a b ha hb hab
    -- at most one of two blocks that are apart is the most recent one; the other lies below its
    -- start, whatever its size
    by_cases ea : a.off = s.last <;> by_cases eb : b.off = s.last
    · exact absurd (ea.trans eb.symm) hab.off_ne
    · have := (hi.blk_last hb).resolve_left eb
      rw [if_pos ea, if_neg eb]
      exact .inr ⟨ea ▸ this.1, ea ▸ this.2⟩
    · have := (hi.blk_last ha).resolve_left ea
      rw [if_neg ea, if_pos eb]
      exact .inl ⟨eb ▸ this.1, eb ▸ this.2⟩
    · rw [if_neg ea, if_neg eb]; exact hab
  · refine List.pairwise_map.mpr (hi.ids.imp ?_)
    intro a b hab
    split <;>
      split <;>
      exact hab

theorem Inv.remove {s : State} (hi : Inv s) (p : Block → Bool) :
    Inv { s with live := s.live.filter p } :=
  ⟨hi.capW, hi.topA, hi.lastA, hi.lastLe,
    hi.topCap.imp_right fun h => by
      show List.filter p s.live = []
      rw [h]
      rfl,
    fun b hb => hi.blk b (List.mem_filter.mp hb).1, hi.disj.filter p, hi.ids.filter p⟩

theorem Inv.pop {s : State} (hi : Inv s) (h : ∀ b ∈ s.live, b.off ≠ s.last) :
    Inv { s with top := s.last } :=
  ⟨hi.capW, hi.lastA, hi.lastA, Nat.le_refl _, hi.topCap.imp_left (Nat.le_trans hi.lastLe),
    fun b hb => have := (hi.blk_last hb).resolve_left (h b hb)
      ⟨hi.blk_aligned hb, this.1, this.2, .inr this, hi.blk_id hb⟩,
    hi.disj, hi.ids⟩

theorem Inv.off_inj {s : State} (hi : Inv s) {a b : Block} (ha : a ∈ s.live) (hb : b ∈ s.live)
    (h : a.off = b.off) : a = b :=
  List.Pairwise.forall_of_forall_of_flip (R := fun a b => a.off = b.off → a = b)
    (fun _ _ _ => rfl) (hi.disj.imp fun h e => absurd e h.off_ne)
    (hi.disj.imp fun h e => absurd e.symm h.off_ne) ha hb h

theorem find?_live {l : List Block} (hl : l.Pairwise (·.id ≠ ·.id)) {b : Block} (hb : b ∈ l) :
    l.find? (·.id = b.id) = some b := by
  induction l with
  | nil => cases hb
  | cons x xs ih =>
    rw [List.pairwise_cons] at hl
    rcases List.mem_cons.mp hb with rfl | hb
    · simp
    · rw [List.find?_cons_of_neg (by simpa using hl.1 b hb)]
      exact ih hl.2 hb

theorem malloc_inv {s : State} (hi : Inv s) (n : Nat) : Inv (malloc s n).1 := by
  have := idealSize_spec n
  rw [malloc_eq hi.cap_lt]
  split
  · exact hi
  · exact hi.push this.1 this.2.1 this.2.2 (by omega)

theorem calloc_inv {s : State} (hi : Inv s) (n m : Nat) : Inv (calloc s n m).1 := by
  rw [calloc_eq]
  split
  · exact hi
  · exact malloc_inv hi _

theorem realloc_inv {s : State} (hi : Inv s) (off n : Nat) : Inv (realloc s off n).1 := by
  have := idealSize_spec n
  rw [realloc_eq hi.cap_lt]
  split
  · exact hi
  · rename_i h
    have : off = s.last := by omega
    subst this
    exact hi.resize this.1 this.2.1 this.2.2 (by omega)

theorem free_inv {s : State} (hi : Inv s) (id : Nat) : Inv (free s id) := by
  fun_cases free s id with
  | case1 => exact hi
  | case2 b hb s' hl =>  -- the most recent block: the top goes back
    have hbm : b ∈ s.live := List.mem_of_find?_eq_some hb
    have hbid : b.id = id := by simpa using List.find?_some hb
    -- no other live block starts where the released one did
    refine Inv.pop (s := s') (hi.remove _) fun x hx e => ?_
    have hx := List.mem_filter.mp hx
    have : x = b := hi.off_inj hx.1 hbm (e.trans hl.symm)
    simp [this, hbid] at hx
  | case3 => exact hi.remove _

/-- Refused, or a skip `d` to the next multiple of `a` and a `malloc` there.  The capacity test
rules out that the rounded address wrapped (the second case of `alignSkip_spec`). -/
theorem alignedAlloc_cases {s : State} (hi : Inv s) {a : Nat} (ha : 0 < a) (h8 : 8 ∣ a)
    (haW : a < W) (n : Nat) :
    alignedAlloc s a n = (s, none) ∨
    ∃ d s', a ∣ s.base + s.top + d ∧ Inv { s with top := s.top + d } ∧
      malloc { s with top := s.top + d } n = (s', some (s.top + d)) ∧
      alignedAlloc s a n = (s', some (s.top + d)) := by
  fun_cases alignedAlloc s a n with
  | case1 => exact .inl rfl  -- no room for the skip
  | case2 topAddr aligned d hg s' off hm =>
    have hcw := hi.capW
    have ht : topAddr = s.base + s.top := Nat.mod_eq_of_lt (by omega)
    have hsk : a ∣ topAddr + d ∨ W ≤ topAddr + d := alignSkip_spec ha haW
    obtain ⟨rfl, _⟩ :=
      malloc_some (s := { s with top := s.top + d }) (show s.cap < W from hi.cap_lt) hm
    have hd := ht ▸ hsk.resolve_right (by omega)
    exact .inr
      ⟨d, s', hd, hi.skip (Nat.mod_eq_zero_of_dvd (Nat.dvd_trans h8 hd)) (by omega), hm, rfl⟩
  | case3 => exact .inl rfl

theorem alignedAlloc_inv {s : State} (hi : Inv s) {a : Nat} (ha : 0 < a) (h8 : 8 ∣ a)
    (haW : a < W) (n : Nat) : Inv (alignedAlloc s a n).1 := by
  rcases alignedAlloc_cases hi ha h8 haW n with h | ⟨d, s', _, hi', hm, h⟩
  · rw [h]; exact hi
  · rw [h]
    have := malloc_inv hi' n
    rw [hm] at this
    exact this

end Zix.Bump

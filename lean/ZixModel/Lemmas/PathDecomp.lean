import ZixModel.Lemmas.PathScan
/-! The ranges of `Model/Path.lean` by what their scans return, and their texts against the C++17
rules on the decomposition of the string into runs. -/
namespace Zix.Path.Dec
open Zix.Path Zix.PathSpec Zix.Path.Scan

theorem rewindSeps_ge (s : List Nat) (p l : Nat) (h : p ≤ l) : p ≤ rewindSeps s p l :=
  rewindSeps_eq_scan s p l ▸ scanDown_ge _ p l h

theorem rewindName_ge (s : List Nat) (p l : Nat) (h : p ≤ l) : p ≤ rewindName s p l :=
  rewindName_eq_scan s p l ▸ scanDown_ge _ p l h

theorem leadingSeps_le (s : List Nat) : leadingSeps s ≤ s.length := by
  unfold leadingSeps; exact (List.takeWhile_sublist _).length_le

theorem relativeRange_eq (s : List Nat) : relativeRange s = (leadingSeps s, s.length) := by
  unfold relativeRange; rw [rootPathRange_eq]

/-- `l1` of `parentRange`: where the backward scan over the last element stops. -/
def parentL1 (s : List Nat) : Nat :=
  if isSep (at' s (s.length - 1)) then rewindSeps s (leadingSeps s - 1) (s.length - 1)
  else rewindName s (leadingSeps s - 1) (s.length - 1)

theorem parentRange_eq (s : List Nat) (h : s ≠ []) :
    parentRange s =
      if parentL1 s ≤ leadingSeps s then (leadingSeps s - 1, leadingSeps s)
      else (leadingSeps s - 1, dropSeps s (leadingSeps s - 1) (parentL1 s) + 1) := by
  have hlen : ¬ s.length = 0 := by simpa using h
  unfold parentRange
  rw [if_neg hlen]
  simp only [rootPathRange_eq]
  show (if parentL1 s ≤ leadingSeps s then _ else _) = _
  split
  · rfl
  · show (leadingSeps s - 1, leadingSeps s - 1 + dropSeps s (leadingSeps s - 1) (parentL1 s) + 1
      - (leadingSeps s - 1)) = _
    congr 1; omega

theorem parentL1_le (s : List Nat) : parentL1 s ≤ s.length - 1 := by
  fun_cases parentL1 s
  · exact rewindSeps_eq_scan .. ▸ scanDown_le ..
  · exact rewindName_eq_scan .. ▸ scanDown_le ..

theorem parentRange_bounds (s : List Nat) :
    (parentRange s).1 ≤ (parentRange s).2 ∧ (parentRange s).2 ≤ s.length := by
  have hk := leadingSeps_le s
  by_cases hs : s = []
  · subst hs; simp [parentRange]
  · rw [parentRange_eq s hs]
    split
    · simp only; omega
    · next hl1 =>
      have h1 := parentL1_le s
      have h2 : dropSeps s (leadingSeps s - 1) (parentL1 s) ≤ parentL1 s :=
        dropSeps_eq_scan .. ▸ scanDown_le ..
      have h3 : leadingSeps s - 1 ≤ dropSeps s (leadingSeps s - 1) (parentL1 s) :=
        dropSeps_eq_scan .. ▸ scanDown_ge _ _ _ (by omega)
      simp only; omega

theorem isEmpty_iff (r : Range) : Range.isEmpty r = true ↔ r.1 = r.2 := by
  unfold Range.isEmpty; simp

theorem not_isEmpty_eq (s : List Nat) (r : Range) (h1 : r.1 ≤ r.2) (h2 : r.2 ≤ s.length) :
    (!Range.isEmpty r) = decide (slice s r ≠ []) := by
  obtain ⟨a, b⟩ := r
  rw [Bool.eq_iff_iff, decide_eq_true_iff, slice_ne_nil_iff s a b h2, Bool.not_eq_true',
    ← Bool.not_eq_true, isEmpty_iff]
  exact ⟨fun h => Nat.lt_of_le_of_ne h1 h, Nat.ne_of_lt⟩

theorem isAbsolute_eq (s : List Nat) : isAbsolute s = decide (s.head? = some sep) := by
  cases s with
  | nil => rfl
  | cons c t =>
    simp only [isAbsolute, at', isSep, List.getD_cons_zero, List.head?_cons, Option.some.injEq]
    by_cases h : c = sep <;> simp [h]

theorem hasRelative_eq (s : List Nat) (h0 : 0 ∉ s) :
    decide (at' s (rootPathRange s).2 ≠ 0) = decide (slice s (relativeRange s) ≠ []) := by
  rw [relativeRange_eq, rootPathRange_eq]
  rw [decide_eq_decide, slice_ne_nil_iff s _ _ (Nat.le_refl _), Ne, at'_eq_zero_iff h0, Nat.not_le]

def headNonSep (r : List Nat) : Prop := ∀ c t, r = c :: t → isSep c = false

theorem at'_form_lt (k : Nat) (r : List Nat) (i : Nat) (h : i < k) : at' (List.replicate k sep ++ r) i = sep := by
  rw [at'_append_left (by simpa using h), at'_replicate h]

theorem isSep_at'_head {r : List Nat} (hh : headNonSep r) : isSep (at' r 0) = false := by
  cases r with
  | nil => exact isSep_zero
  | cons c t => exact hh c t rfl

theorem dot_form (f : List Nat) : dot ∉ f ∨ ∃ pre tl, f = pre ++ dot :: tl ∧ dot ∉ tl := by
  induction f with
  | nil => left; simp
  | cons c f ih =>
    rcases ih with h | ⟨pre, tl, h1, h2⟩
    · by_cases hc : c = dot
      · right; exact ⟨[], f, by simp [hc], h⟩
      · left
        simp only [List.mem_cons, not_or]
        exact ⟨fun e => hc e.symm, h⟩
    · right; exact ⟨c :: pre, tl, by simp [h1], h2⟩

theorem lastDot_none {f : List Nat} (h : dot ∉ f) : lastDot f = none := by
  have := takeWhile_reverse_ne dot [] f h (Or.inl rfl)
  rw [List.nil_append] at this
  unfold lastDot
  simp only [this, List.length_reverse, if_true]

theorem lastDot_some (pre tl : List Nat) (h : dot ∉ tl) :
    lastDot (pre ++ dot :: tl) = some pre.length := by
  have := takeWhile_reverse_ne dot (pre ++ [dot]) tl h (Or.inr ⟨pre, rfl⟩)
  rw [List.append_assoc, List.singleton_append] at this
  unfold lastDot
  simp only [this, List.length_reverse, List.length_append, List.length_cons]
  rw [if_neg (by omega)]
  congr 1; omega

theorem filenameRange_zero (s : List Nat)
    (h : leadingSeps s = s.length ∨ isSep (at' s (s.length - 1)) = true) :
    filenameRange s = (0, 0) := by
  fun_cases filenameRange s with
  | case1 | case2 => rfl
  | case3 h0 b hb =>  -- a filename: excluded by `h`
    simp only [b, rootPathRange_eq] at hb
    exact absurd h hb

theorem filenameRange_of (s : List Nat) (h1 : leadingSeps s < s.length)
    (h2 : isSep (at' s (s.length - 1)) = false) :
    filenameRange s = (rewindToSep s (leadingSeps s) (s.length - 1), s.length) := by
  unfold filenameRange
  rw [if_neg (by omega), rootPathRange_eq, h2]
  simp
  omega

theorem filenameRange_cases (s : List Nat) :
    filenameRange s = (0, 0) ∨
    ∃ g, filenameRange s = (g, s.length) ∧ g < s.length := by
  have hk := leadingSeps_le s
  by_cases h : leadingSeps s = s.length ∨ isSep (at' s (s.length - 1)) = true
  · exact Or.inl (filenameRange_zero s h)
  · have h1 : rewindToSep s (leadingSeps s) (s.length - 1) ≤ s.length - 1 :=
      rewindToSep_eq_scan .. ▸ scanDown_le ..
    exact Or.inr ⟨_, filenameRange_of s (by omega) (by simpa using fun hh => h (Or.inr hh)),
      by omega⟩

theorem filenameRange_le (s : List Nat) :
    (filenameRange s).1 ≤ (filenameRange s).2 ∧ (filenameRange s).2 ≤ s.length := by
  rcases filenameRange_cases s with h | ⟨g, h, hlt⟩
  · rw [h]; exact ⟨Nat.le_refl 0, Nat.zero_le _⟩
  · rw [h]; exact ⟨Nat.le_of_lt hlt, Nat.le_refl _⟩

theorem filenameRange_eq (s : List Nat) (g : Nat) (hg : leadingSeps s ≤ g) (hlt : g < s.length)
    (htl : ∀ i, g ≤ i → isSep (at' s i) = false)
    (hstop : g = leadingSeps s ∨ isSep (at' s (g - 1)) = true) :
    filenameRange s = (g, s.length) := by
  rw [filenameRange_of s (by omega) (htl _ (by omega)), rewindToSep_eq_scan,
    scanDown_eq _ _ g _ hg (by omega) (fun i h1 _ => by simp only [htl (i - 1) (by omega)]; rfl)
      (hstop.imp_right fun h => by simp [h])]

theorem filename_decomp (k : Nat) (es : List (List Nat × Nat)) (tail : List Nat)
    (hes : ∀ e ∈ es, Name e.1) (ht : sep ∉ tail) :
    PathSpec.filename (List.replicate k sep ++ flat es ++ tail) = tail := by
  unfold PathSpec.filename
  rw [parse_decomp k es tail hes ht]
  split
  · next h => rw [h.2]; rfl
  · exact List.getLastD_concat ..

theorem slice_filenameRange (s : List Nat) : slice s (filenameRange s) = PathSpec.filename s := by
  obtain ⟨k, es, tail, rfl, hes, ht⟩ := exists_decomp s
  have hk := leadingSeps_decomp k es tail hes ht
  rw [filename_decomp k es tail hes ht]
  have hpre := flat_ends es
  generalize hP : List.replicate k sep ++ flat es = pre at hk ⊢
  have hkl : k ≤ pre.length := by rw [← hP]; simp
  have hstop : pre.length = k ∨ isSep (at' (pre ++ tail) (pre.length - 1)) = true := by
    rcases hpre with h | ⟨B, h⟩
    · left
      rw [← hP, h]
      simp
    · right
      rw [← hP, h, ← List.append_assoc, List.length_append, List.length_singleton,
        Nat.add_sub_cancel, List.append_assoc, at'_length_append]
      exact isSep_sep
  by_cases htl : tail = []
  · subst htl
    rw [List.append_nil] at hstop hk ⊢
    rw [filenameRange_zero _ (by rw [hk]; exact hstop.imp_left Eq.symm), slice_empty]
  · have hlen : 0 < tail.length := List.length_pos_iff.2 htl
    rw [filenameRange_eq _ pre.length (by omega) (by simp; omega)
        (fun i hi => by rw [at'_append_right hi]; exact isSep_at'_eq_false ht _)
        (by rw [hk]; exact hstop),
      slice_to_end, List.drop_left]

theorem rewindToDot_eq (s : List Nat) (g : Nat) (hg : g < s.length) :
    rewindToDot s g (s.length - 1) = g + (lastDot (s.drop g)).getD 0 ∧
      (lastDot (s.drop g)).getD 0 < s.length - g := by
  have hat : ∀ i, g ≤ i → at' s i = at' (s.drop g) (i - g) := by
    intro i hi
    rw [at'_drop]
    congr 1
    omega
  rcases dot_form (s.drop g) with h | ⟨pre, tl, h1, h2⟩
  · rw [lastDot_none h]
    refine ⟨(rewindToDot_eq_scan ..).trans
      (scanDown_eq _ _ g _ (Nat.le_refl _) (by omega) (fun i hi _ => ?_) (Or.inl rfl)),
      by simp; omega⟩
    rw [hat i (by omega)]
    exact at'_ne_of_not_mem (by decide) h _
  · have hlen : s.length - g = pre.length + 1 + tl.length := by
      have := congrArg List.length h1
      simp at this; omega
    rw [h1, lastDot_some pre tl h2]
    refine ⟨(rewindToDot_eq_scan ..).trans
      (scanDown_eq _ _ (g + pre.length) _ (by omega) (by omega) (fun i hi _ => ?_)
        (Or.inr fun h => h ?_)),
      by simp; omega⟩
    · rw [hat i (by omega), h1, at'_append_right (by omega)]
      obtain ⟨m, hm⟩ : ∃ m, i - g - pre.length = m + 1 := ⟨i - g - pre.length - 1, by omega⟩
      rw [hm]
      exact at'_ne_of_not_mem (by decide) h2 m
    · rw [hat _ (by omega), h1, at'_append_right (by omega)]
      have : g + pre.length - g - pre.length = 0 := by omega
      rw [this]; rfl

/-- The three ranges at once: one index `d` cuts the filename into stem and extension. -/
theorem stem_ext_eq (s : List Nat) :
    (filenameRange s = (0, 0) ∧ stemRange s = (0, 0) ∧ extensionRange s = (0, 0)) ∨
    ∃ g d, g < d ∧ d ≤ s.length ∧ filenameRange s = (g, s.length) ∧
      stemRange s = (g, d) ∧ extensionRange s = (d, s.length) ∧
      d = if s.drop g = [dot] ∨ s.drop g = [dot, dot] ∨ (lastDot (s.drop g)).getD 0 = 0
          then s.length
          else g + (lastDot (s.drop g)).getD 0 := by
  rcases filenameRange_cases s with h | ⟨g, hg, hlt⟩
  · left
    have hst : stemRange s = (0, 0) := by
      unfold stemRange
      rw [h]
      rfl
    exact ⟨h, hst, by
      unfold extensionRange
      rw [hst]
      rfl⟩
  · right
    obtain ⟨hr, hi⟩ := rewindToDot_eq s g hlt
    obtain ⟨d, hst, hd⟩ : ∃ d, stemRange s = (g, d) ∧
        d = if s.drop g = [dot] ∨ s.drop g = [dot, dot] ∨ (lastDot (s.drop g)).getD 0 = 0
          then s.length
          else g + (lastDot (s.drop g)).getD 0 := by
      refine ⟨_, ?_, rfl⟩
      unfold stemRange
      rw [hg]
      simp only [slice_to_end, hr, Range.isEmpty]
      generalize (lastDot (s.drop g)).getD 0 = i at hi ⊢
      have hne : (!g == s.length) = true := by simp; omega
      by_cases hsp : s.drop g = [dot] ∨ s.drop g = [dot, dot]
      · have hC : ¬ ((!g == s.length) = true ∧ s.drop g ≠ [dot] ∧ s.drop g ≠ [dot, dot]) :=
          fun h => hsp.elim h.2.1 h.2.2
        rw [if_neg hC, if_neg (by simpa using hne),
          if_pos (hsp.elim Or.inl fun h => Or.inr (Or.inl h))]
      · have hC : (!g == s.length) = true ∧ s.drop g ≠ [dot] ∧ s.drop g ≠ [dot, dot] :=
          ⟨hne, fun h => hsp (Or.inl h), fun h => hsp (Or.inr h)⟩
        rw [if_pos hC]
        by_cases hi0 : i = 0
        · rw [if_pos (by simp [hi0]), if_pos (Or.inr (Or.inr hi0))]
        · rw [if_neg (by simp; omega), if_neg (fun h => h.elim hC.2.1 fun h => h.elim hC.2.2 hi0)]
    have hgd : g < d ∧ d ≤ s.length := by rw [hd]; split <;> omega
    refine ⟨g, d, hgd.1, hgd.2, hg, hst, ?_, hd⟩
    unfold extensionRange
    rw [hst]
    rw [if_neg (by rw [isEmpty_iff]; exact Nat.ne_of_lt hgd.1)]

theorem slice_filename_split (s : List Nat) :
    slice s (filenameRange s) = slice s (stemRange s) ++ slice s (extensionRange s) := by
  rcases stem_ext_eq s with ⟨h1, h2, h3⟩ | ⟨g, d, h1, h2, hn, hs, he, _⟩
  · rw [h1, h2, h3, slice_empty]
    rfl
  · rw [hn, hs, he]
    exact slice_append s g d s.length (by omega) h2

theorem slice_extensionRange (s : List Nat) :
    slice s (extensionRange s) = PathSpec.extension s := by
  unfold PathSpec.extension
  rw [← slice_filenameRange]
  rcases stem_ext_eq s with ⟨h1, _, h3⟩ | ⟨g, d, _, _, hn, _, he, hd⟩
  · rw [h1, h3, slice_empty]; rfl
  · rw [hn, he, slice_to_end, slice_to_end, hd]
    by_cases hsp : s.drop g = [dot] ∨ s.drop g = [dot, dot]
    · rw [if_pos (hsp.elim Or.inl fun h => Or.inr (Or.inl h)), if_pos hsp, List.drop_length]
    · rw [if_neg hsp]
      cases hl : lastDot (s.drop g) with
      | none => rw [Option.getD_none, if_pos (Or.inr (Or.inr rfl)), List.drop_length]
      | some j =>
        rw [Option.getD_some]
        cases j with
        | zero => rw [if_pos (Or.inr (Or.inr rfl)), List.drop_length]; rfl
        | succ m =>
          rw [if_neg (fun h => h.elim (fun h => hsp (Or.inl h)) fun h =>
            h.elim (fun h => hsp (Or.inr h)) (Nat.succ_ne_zero m))]
          exact (List.drop_drop ..).symm

theorem slice_stemRange (s : List Nat) : slice s (stemRange s) = PathSpec.stem s := by
  unfold PathSpec.stem
  rw [← slice_filenameRange, ← slice_extensionRange, slice_filename_split]
  simp

theorem slice_relativeRange (s : List Nat) :
    slice s (relativeRange s) = PathSpec.relativeText s := by
  rw [relativeRange_eq, slice_to_end]
  exact drop_takeWhile_length isSep s

theorem slice_rootDirRange (s : List Nat) : slice s (rootDirRange s) = PathSpec.rootDirText s := by
  obtain ⟨k, es, tail, rfl, hes, ht⟩ := exists_decomp s
  obtain ⟨h1, h2⟩ := rootPathRange_decomp k es tail hes ht
  unfold PathSpec.rootDirText
  rw [parse_decomp k es tail hes ht, show rootDirRange _ = _ from h1, h2]
  rfl

theorem parent_decomp (k : Nat) (es : List (List Nat × Nat)) (tail : List Nat)
    (hes : ∀ e ∈ es, Name e.1) (ht : sep ∉ tail) :
    PathSpec.parent (List.replicate k sep ++ flat es ++ tail) = ⟨decide (0 < k), es.map (·.1)⟩ := by
  unfold PathSpec.parent
  rw [parse_decomp k es tail hes ht]
  by_cases h : es = [] ∧ tail = []
  · rw [if_pos h, if_pos rfl, h.1]; rfl
  · rw [if_neg h, if_neg (by simp), List.dropLast_concat]

theorem parentRange_root (s : List Nat) (htl : ∀ i, leadingSeps s ≤ i → isSep (at' s i) = false) :
    parentRange s = (leadingSeps s - 1, leadingSeps s) := by
  by_cases hs : s = []
  · subst hs; rfl
  · have hpos : 0 < s.length := List.length_pos_iff.2 hs
    have hk := leadingSeps_le s
    rw [parentRange_eq s hs, if_pos]
    fun_cases parentL1 s
    · next hsep =>
      have h1 : rewindSeps s (leadingSeps s - 1) (s.length - 1) ≤ s.length - 1 :=
        rewindSeps_eq_scan .. ▸ scanDown_le ..
      have : s.length - 1 < leadingSeps s :=
        Nat.lt_of_not_le fun h => by rw [htl _ h] at hsep; exact absurd hsep (by decide)
      omega
    · rw [rewindName_eq_scan, scanDown_eq _ _ (leadingSeps s - 1) _ (Nat.le_refl _) (by omega)
        (fun i h1 _ => by simp only [htl i (by omega)]; rfl) (Or.inl rfl)]
      omega

/-- Whichever scan `parentRange` runs first stops in the run of separators behind index `a`, and
`dropSeps` goes back to `a`. -/
theorem parentRange_eq_of_bytes (s : List Nat) (a j : Nat) (hlen : a + 1 + (j + 1) ≤ s.length)
    (hk : leadingSeps s ≤ a) (hx : isSep (at' s a) = false)
    (hsep : ∀ i, a < i → i ≤ a + (j + 1) → isSep (at' s i) = true)
    (htl : ∀ i, a + 1 + (j + 1) ≤ i → isSep (at' s i) = false) :
    parentRange s = (leadingSeps s - 1, a + 1) := by
  have hl1 : a < parentL1 s ∧ parentL1 s ≤ a + (j + 1) := by
    fun_cases parentL1 s
    · next hlast =>
      have : s.length = a + 1 + (j + 1) := by
        apply Classical.byContradiction; intro h
        rw [htl _ (by omega)] at hlast; exact absurd hlast (by decide)
      rw [rewindSeps_eq_scan, scanDown_eq _ _ (a + 1) _ (by omega) (by omega)
        (fun i h1 h2 => hsep (i - 1) (by omega) (by omega)) (Or.inr (by simp [hx]))]
      omega
    · rw [rewindName_eq_scan, scanDown_eq _ _ (a + (j + 1)) _ (by omega) (by omega)
        (fun i h1 h2 => by simp [htl i (by omega)])
        (Or.inr (by simp [hsep _ (by omega) (Nat.le_refl _)]))]
      omega
  have hs : s ≠ [] := by
    intro h
    rw [h] at hlen
    simp at hlen
  rw [parentRange_eq s hs, if_neg (by omega), dropSeps_eq_scan,
    scanDown_eq _ _ a _ (by omega) (by omega) (fun i h1 h2 => hsep i h1 (by omega))
      (Or.inr (by simp [hx]))]

/-- The parent of `A x /…/ tail` ends behind `x`, the last byte of the last name that a separator
follows. -/
theorem parentRange_snoc (A tail : List Nat) (x j : Nat) (hx : isSep x = false) (ht : sep ∉ tail)
    (hk : leadingSeps (A ++ [x] ++ List.replicate (j + 1) sep ++ tail) ≤ A.length) :
    parentRange (A ++ [x] ++ List.replicate (j + 1) sep ++ tail)
      = (leadingSeps (A ++ [x] ++ List.replicate (j + 1) sep ++ tail) - 1, A.length + 1) := by
  have hlen : (A ++ [x] ++ List.replicate (j + 1) sep).length = A.length + 1 + (j + 1) := by
    simp
    omega
  refine parentRange_eq_of_bytes _ A.length j (by rw [List.length_append, hlen]; omega) hk ?_
    (fun i h1 h2 => ?_) (fun i h => ?_)
  · rw [List.append_assoc, List.append_assoc, at'_length_append]; exact hx
  · rw [at'_append_left (by omega), at'_append_right (by simp; omega),
      at'_replicate (by simp; omega)]
    exact isSep_sep
  · rw [at'_append_right (by omega)]; exact isSep_at'_eq_false ht _

theorem parse_slice_parentRange (s : List Nat) :
    parse (slice s (parentRange s)) = PathSpec.parent s := by
  obtain ⟨k, es, tail, rfl, hes, ht⟩ := exists_decomp s
  have hk := leadingSeps_decomp k es tail hes ht
  rw [parent_decomp k es tail hes ht]
  rcases List.eq_nil_or_concat es with rfl | ⟨es', ⟨n, j⟩, rfl⟩
  · -- no separator after the root: the parent is the root
    have hsl := slice_lastSep k (flat [] ++ tail) 0
    rw [← List.append_assoc, Nat.add_zero] at hsl
    rw [parentRange_root _ (fun i hi => by
        rw [at'_append_right (by rw [hk] at hi; simpa [flat] using hi)]
        exact isSep_at'_eq_false ht _),
      hk, hsl, List.take_zero]
    simpa [flat] using parse_rootText_decomp (decide (0 < k)) [] [] (by simp) List.not_mem_nil
  · rw [List.concat_eq_append] at hes hk ⊢
    have hn := hes (n, j) (by simp)
    obtain ⟨n', x, rfl⟩ : ∃ n' x, n = n' ++ [x] := by
      rcases List.eq_nil_or_concat n with h | ⟨n', x, h⟩
      · exact absurd h hn.ne_nil
      · exact ⟨n', x, by rw [h, List.concat_eq_append]⟩
    -- the string is `A ++ [x] ++ separators ++ tail`, and `A ++ [x]` is the parent's text behind
    -- the root
    have e : List.replicate k sep ++ flat (es' ++ [(n' ++ [x], j)]) ++ tail
        = (List.replicate k sep ++ (flat es' ++ n')) ++ [x] ++ List.replicate (j + 1) sep
          ++ tail := by
      rw [flat_snoc]
      simp only [List.append_assoc]
    have hsl := slice_lastSep k ((flat es' ++ (n' ++ [x])) ++ (List.replicate (j + 1) sep ++ tail))
      (flat es' ++ (n' ++ [x])).length
    rw [List.take_left, ← List.append_assoc, ← List.append_assoc] at hsl
    rw [e] at hk ⊢
    rw [parentRange_snoc _ tail x j (isSep_eq_false hn.noSep (by simp)) ht (by rw [hk]; simp), hk]
    simp only [List.append_assoc, List.length_append, List.length_replicate,
      List.length_singleton] at hsl ⊢
    rw [show k + ((flat es').length + n'.length) + 1
        = k + ((flat es').length + (n'.length + 1)) by omega, hsl]
    rw [← List.append_assoc,
      parse_rootText_decomp _ es' (n' ++ [x]) (fun e he => hes e (by simp [he])) hn.noSep,
      if_neg (by simp)]
    simp
end Zix.Path.Dec

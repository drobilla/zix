import ZixModel.Model.Errno
/-! Which errno a status of `zix_errno_status` can come from: a lookup with default yields the
default or a row of the table, so a status that only one row carries determines the errno.
SUCCESS is such a status for every caller; UNAVAILABLE and TIMEOUT are the errno clauses of the
semaphore property C17 and bear its namespace (the lock property C19 cites the first as well). -/
namespace Zix.Errno
open Zix.Generated

theorem errnoStatus_eq_iff {s k : Int} (hs : s ≠ errnoFallback) (hk : errnoStatus k = s)
    (hrow : ∀ p ∈ errnoMap, p.2 = s → p.1 = k) (e : Int) : errnoStatus e = s ↔ e = k := by
  refine ⟨fun h => ?_, fun h => h ▸ hk⟩
  unfold errnoStatus at h
  cases hl : errnoMap.lookup e with
  | none => rw [hl] at h; exact absurd h.symm hs
  | some b =>
    rw [hl] at h
    obtain ⟨l₁, l₂, hm, _⟩ := List.lookup_eq_some_iff.1 hl
    exact hrow (e, b) (hm ▸ List.mem_append_right _ List.mem_cons_self) h

/-- `zix_errno_status(e)` is SUCCESS only for `e = 0`: a failed call that set errno is never
reported as success. -/
theorem errnoStatus_eq_zero_iff (e : Int) : errnoStatus e = 0 ↔ e = 0 :=
  errnoStatus_eq_iff (by decide) (by decide) (by decide) e

theorem errnoStatus_ne_zero {e : Int} (h : e ≠ 0) : errnoStatus e ≠ 0 :=
  fun h' => h ((errnoStatus_eq_zero_iff e).1 h')

end Zix.Errno

namespace Zix.C17
open Zix.Errno

/-- UNAVAILABLE comes from EAGAIN (= EWOULDBLOCK) only. -/
theorem errno_unavailable_iff (e : Int) : errnoStatus e = 11 ↔ e = 11 :=
  errnoStatus_eq_iff (by decide) (by decide) (by decide) e

/-- TIMEOUT comes from ETIMEDOUT only. -/
theorem errno_timeout_iff (e : Int) : errnoStatus e = 8 ↔ e = 110 :=
  errnoStatus_eq_iff (by decide) (by decide) (by decide) e

end Zix.C17

import ZixModel.Model.Digest
/-! Everything that depends on a generated constant goes through the generated NAME and is
established by `decide` or `rfl`.  Each mixing step is injective because it is composed of
xor-shifts, odd multiplications and rotations; what the two block loops have in common is proved
once for `BlockLoop`. -/
namespace Zix.Digest
open Zix.Generated

/-- Every bit equals one further up, and those beyond the width are 0.  This is why an xor-shift is
injective. -/
theorem eq_zero_of_eq_ushiftRight {w : Nat} (z : BitVec w) (s : Nat) (hs : 0 < s)
    (h : z = z >>> s) : z = 0#w := by
  have key : ∀ n i, w - i ≤ n → z.getLsbD i = false := by
    intro n
    induction n with
    | zero => intro i hi; exact BitVec.getLsbD_of_ge z i (by omega)
    | succ n ih =>
      intro i hi
      have e : z.getLsbD i = (z >>> s).getLsbD i := congrArg (fun v => v.getLsbD i) h
      rw [e, BitVec.getLsbD_ushiftRight]
      exact ih (s + i) (by omega)
  apply BitVec.eq_of_getLsbD_eq
  intro i _
  rw [key w i (by omega)]
  simp

def xorShift {w : Nat} (x : BitVec w) (s : Nat) : BitVec w := x ^^^ (x >>> s)

theorem xorShift_inj {w s : Nat} (hs : 0 < s) {x y : BitVec w}
    (h : xorShift x s = xorShift y s) : x = y := by
  unfold xorShift at h
  have hz : x ^^^ y = (x ^^^ y) >>> s := by
    rw [BitVec.ushiftRight_xor_distrib]
    have h2 := congrArg (fun v => v ^^^ (y ^^^ (x >>> s))) h
    have l : x ^^^ x >>> s ^^^ (y ^^^ x >>> s) = x ^^^ y := by
      rw [BitVec.xor_comm y, ← BitVec.xor_assoc, BitVec.xor_assoc x, BitVec.xor_self,
        BitVec.xor_zero]
    have r : y ^^^ y >>> s ^^^ (y ^^^ x >>> s) = x >>> s ^^^ y >>> s := by
      rw [BitVec.xor_comm y (y >>> s), BitVec.xor_assoc, ← BitVec.xor_assoc y, BitVec.xor_self,
        BitVec.zero_xor, BitVec.xor_comm]
    rw [l, r] at h2
    exact h2
  have hz0 := eq_zero_of_eq_ushiftRight _ s hs hz
  have := congrArg (fun v => v ^^^ y) hz0
  simp only [BitVec.xor_assoc, BitVec.xor_self, BitVec.xor_zero, BitVec.zero_xor] at this
  exact this

theorem mul_inj_of_inv {w : Nat} {m mi : BitVec w} (hm : m * mi = 1#w) {x y : BitVec w}
    (h : x * m = y * m) : x = y := by
  have := congrArg (fun v => v * mi) h
  simp only [BitVec.mul_assoc, hm, BitVec.mul_one] at this
  exact this

theorem xor_right_comm {w : Nat} (a b c : BitVec w) : a ^^^ b ^^^ c = a ^^^ c ^^^ b := by
  rw [BitVec.xor_assoc, BitVec.xor_comm b, BitVec.xor_assoc]

theorem rotl32_eq_rotateLeft (v : BitVec 32) (n : Nat) (hn : n < 32) :
    rotl32 v n = v.rotateLeft n := by
  rw [BitVec.rotateLeft_def, Nat.mod_eq_of_lt hn]; rfl

theorem rotl32_inj {n : Nat} (hn : n < 32) {x y : BitVec 32} (h : rotl32 x n = rotl32 y n) :
    x = y := by
  rw [rotl32_eq_rotateLeft _ _ hn, rotl32_eq_rotateLeft _ _ hn] at h
  apply BitVec.eq_of_getLsbD_eq
  intro j hj
  by_cases c : j + n < 32
  · have e := congrArg (fun v => v.getLsbD (j + n)) h
    simp only [BitVec.getLsbD_rotateLeft_of_le hn] at e
    have c1 : ¬ (j + n < n) := by omega
    simp only [c1, decide_false, cond_false, c, decide_true, Bool.true_and,
      Nat.add_sub_cancel] at e
    exact e
  · have e := congrArg (fun v => v.getLsbD (j + n - 32)) h
    simp only [BitVec.getLsbD_rotateLeft_of_le hn] at e
    have c1 : j + n - 32 < n := by omega
    have c2 : 32 - n + (j + n - 32) = j := by omega
    simp only [c1, decide_true, cond_true, c2] at e
    exact e

theorem mix64Mul_inv : BitVec.ofNat 64 mix64Mul * BitVec.ofNat 64 mix64MulInv = 1#64 := by decide

theorem d64Mul_inv : BitVec.ofNat 64 d64Mul * BitVec.ofNat 64 d64MulInv = 1#64 := by decide

theorem mix32Mul1_inv : BitVec.ofNat 32 mix32Mul1 * BitVec.ofNat 32 mix32Mul1Inv = 1#32 := by
  decide

theorem mix32Mul2_inv : BitVec.ofNat 32 mix32Mul2 * BitVec.ofNat 32 mix32Mul2Inv = 1#32 := by
  decide

theorem k32_c1_inv : k32.c1 * BitVec.ofNat 32 d32C1Inv = 1#32 := by decide

theorem k32_c2_inv : k32.c2 * BitVec.ofNat 32 d32C2Inv = 1#32 := by decide

theorem k32_mul_inv : k32.mul * BitVec.ofNat 32 d32MulInv = 1#32 := by decide

theorem k32_r1_lt : k32.r1 < 32 := by decide

theorem k32_r2_lt : k32.r2 < 32 := by decide

theorem d64MulAligned_eq : d64MulAligned = d64Mul := by decide

theorem k32Aligned_eq : k32Aligned = k32 := rfl

/-- The fasthash64 multiplier. -/
abbrev m64 : BitVec 64 := BitVec.ofNat 64 d64Mul

theorem mix64_eq (h : BitVec 64) :
    mix64 h = xorShift (xorShift h mix64Shift1 * BitVec.ofNat 64 mix64Mul) mix64Shift2 := rfl

theorem mix64_inj {x y : BitVec 64} (h : mix64 x = mix64 y) : x = y := by
  rw [mix64_eq, mix64_eq] at h
  exact xorShift_inj (by decide) (mul_inj_of_inv mix64Mul_inv (xorShift_inj (by decide) h))

theorem mix64_zero : mix64 0#64 = 0#64 := by decide

theorem mix32_eq (h : BitVec 32) :
    mix32 h = xorShift (xorShift (xorShift h mix32Shift1 * BitVec.ofNat 32 mix32Mul1) mix32Shift2
      * BitVec.ofNat 32 mix32Mul2) mix32Shift3 := rfl

theorem mix32_inj {x y : BitVec 32} (h : mix32 x = mix32 y) : x = y := by
  rw [mix32_eq, mix32_eq] at h
  exact xorShift_inj (by decide) (mul_inj_of_inv mix32Mul1_inv
    (xorShift_inj (by decide) (mul_inj_of_inv mix32Mul2_inv (xorShift_inj (by decide) h))))

theorem step64_inj_h {m mi : BitVec 64} (hm : m * mi = 1#64) {k h1 h2 : BitVec 64}
    (h : step64 m h1 k = step64 m h2 k) : h1 = h2 :=
  (BitVec.xor_left_inj _).mp (mul_inj_of_inv hm h)

theorem step64_inj_k {m mi : BitVec 64} (hm : m * mi = 1#64) {h0 k1 k2 : BitVec 64}
    (h : step64 m h0 k1 = step64 m h0 k2) : k1 = k2 :=
  mix64_inj ((BitVec.xor_right_inj _).mp (mul_inj_of_inv hm h))

theorem scramble32_inj {k1 k2 : BitVec 32}
    (h : scramble32 k32.c1 k32.c2 k32.r1 k1 = scramble32 k32.c1 k32.c2 k32.r1 k2) : k1 = k2 := by
  unfold scramble32 at h
  exact mul_inj_of_inv k32_c1_inv (rotl32_inj k32_r1_lt (mul_inj_of_inv k32_c2_inv h))

theorem scramble32_zero (c1 c2 : BitVec 32) (r : Nat) : scramble32 c1 c2 r 0 = 0 := by
  unfold scramble32 rotl32
  simp

theorem step32_inj_h {k h1 h2 : BitVec 32} (h : step32 k32 h1 k = step32 k32 h2 k) :
    h1 = h2 := by
  unfold step32 at h
  exact (BitVec.xor_left_inj _).mp
    (rotl32_inj k32_r2_lt (mul_inj_of_inv k32_mul_inv ((BitVec.add_left_inj _).mp h)))

theorem step32_inj_k {h0 k1 k2 : BitVec 32} (h : step32 k32 h0 k1 = step32 k32 h0 k2) :
    k1 = k2 := by
  unfold step32 at h
  exact scramble32_inj ((BitVec.xor_right_inj _).mp
    (rotl32_inj k32_r2_lt (mul_inj_of_inv k32_mul_inv ((BitVec.add_left_inj _).mp h))))

theorem byte_step {w : Nat} (x : BitVec w) (n : Nat) :
    ((x >>> (n + 8)) <<< 8) ||| BitVec.ofNat w ((x >>> n).toNat % 256) = x >>> n := by
  apply BitVec.eq_of_getLsbD_eq
  intro i hi
  have e256 : 256 = 2 ^ 8 := rfl
  rw [BitVec.getLsbD_or, BitVec.getLsbD_shiftLeft, BitVec.getLsbD_ofNat, e256,
    Nat.testBit_mod_two_pow, BitVec.testBit_toNat]
  simp only [BitVec.getLsbD_ushiftRight]
  by_cases c : i < 8
  · simp [c, hi]
  · have e : n + 8 + (i - 8) = n + i := by omega
    simp [c, hi, e]

theorem bytesOfWord64_eq (w : BitVec 64) : bytesOfWord64 w =
    [(w >>> 0).toNat % 256, (w >>> 8).toNat % 256, (w >>> 16).toNat % 256, (w >>> 24).toNat % 256,
     (w >>> 32).toNat % 256, (w >>> 40).toNat % 256, (w >>> 48).toNat % 256,
     (w >>> 56).toNat % 256] := rfl

theorem bytesOfWord32_eq (w : BitVec 32) : bytesOfWord32 w =
    [(w >>> 0).toNat % 256, (w >>> 8).toNat % 256, (w >>> 16).toNat % 256,
     (w >>> 24).toNat % 256] := rfl

theorem leWord64_bytesOfWord64 (w : BitVec 64) : leWord64 (bytesOfWord64 w) = w := by
  rw [bytesOfWord64_eq]
  simp only [leWord64, List.foldr]
  have z : (0 : BitVec 64) = w >>> (56 + 8) := (BitVec.ushiftRight_eq_zero (by omega)).symm
  rw [z, byte_step w 56, byte_step w 48, byte_step w 40, byte_step w 32, byte_step w 24,
    byte_step w 16, byte_step w 8, byte_step w 0, BitVec.ushiftRight_zero]

theorem leWord32_bytesOfWord32 (w : BitVec 32) : leWord32 (bytesOfWord32 w) = w := by
  rw [bytesOfWord32_eq]
  simp only [leWord32, List.foldr]
  have z : (0 : BitVec 32) = w >>> (24 + 8) := (BitVec.ushiftRight_eq_zero (by omega)).symm
  rw [z, byte_step w 24, byte_step w 16, byte_step w 8, byte_step w 0, BitVec.ushiftRight_zero]

theorem exists_cons4 (l : List Nat) (h : 4 ≤ l.length) :
    ∃ b0 b1 b2 b3 rest, l = b0 :: b1 :: b2 :: b3 :: rest := by
  rcases l with _ | ⟨b0, _ | ⟨b1, _ | ⟨b2, _ | ⟨b3, rest⟩⟩⟩⟩ <;> simp at h
  exact ⟨b0, b1, b2, b3, rest, rfl⟩

theorem exists_cons8 (l : List Nat) (h : 8 ≤ l.length) :
    ∃ b0 b1 b2 b3 b4 b5 b6 b7 rest, l = b0 :: b1 :: b2 :: b3 :: b4 :: b5 :: b6 :: b7 :: rest := by
  obtain ⟨b0, b1, b2, b3, r, rfl⟩ := exists_cons4 l (by omega)
  obtain ⟨b4, b5, b6, b7, rest, rfl⟩ := exists_cons4 r (by simp at h; omega)
  exact ⟨b0, b1, b2, b3, b4, b5, b6, b7, rest, rfl⟩

theorem split_blocks (n : Nat) (l : List Nat) :
    ∃ pre t, l = pre ++ t ∧ pre.length = n * (l.length / n) ∧ t.length = l.length % n := by
  refine ⟨l.take (n * (l.length / n)), l.drop (n * (l.length / n)),
    (List.take_append_drop _ _).symm, ?_, ?_⟩
  · rw [List.length_take]
    have := Nat.mul_div_le l.length n
    omega
  · rw [List.length_drop]
    have := Nat.div_add_mod l.length n
    omega

theorem leWord64_cons (b : Nat) (bs : List Nat) :
    leWord64 (b :: bs) = (leWord64 bs <<< 8) ||| BitVec.ofNat 64 b := rfl

theorem leWord32_cons (b : Nat) (bs : List Nat) :
    leWord32 (b :: bs) = (leWord32 bs <<< 8) ||| BitVec.ofNat 32 b := rfl

theorem leWord64_zeros (k : Nat) : leWord64 (List.replicate k 0) = 0#64 := by
  induction k with
  | zero => rfl
  | succ k ih => rw [List.replicate_succ, leWord64_cons, ih]; simp

theorem leWord32_zeros (k : Nat) : leWord32 (List.replicate k 0) = 0#32 := by
  induction k with
  | zero => rfl
  | succ k ih => rw [List.replicate_succ, leWord32_cons, ih]; simp

theorem leWord64_append_zeros (t : List Nat) (k : Nat) :
    leWord64 (t ++ List.replicate k 0) = leWord64 t := by
  induction t with
  | nil => simp [leWord64_zeros]; rfl
  | cons b t ih => rw [List.cons_append, leWord64_cons, leWord64_cons, ih]

theorem leWord32_append_zeros (t : List Nat) (k : Nat) :
    leWord32 (t ++ List.replicate k 0) = leWord32 t := by
  induction t with
  | nil => simp [leWord32_zeros]; rfl
  | cons b t ih => rw [List.cons_append, leWord32_cons, leWord32_cons, ih]

theorem body64_short (m h : BitVec 64) (t : List Nat) (hl : t.length < 8) (hne : t ≠ []) :
    body64 m h t = step64 m h (leWord64 t) := by
  fun_cases body64 m h t with
  | case1 =>
    simp at hl
    omega
  | case2 => exact absurd rfl hne
  | case3 => rfl

theorem body32_short (c : K32) (h : BitVec 32) (t : List Nat) (hl : t.length < 4) :
    body32 c h t = h ^^^ scramble32 c.c1 c.c2 c.r1 (leWord32 t) := by
  fun_cases body32 c h t with
  | case1 =>
    simp at hl
    omega
  | case2 =>
    rw [show leWord32 [] = 0 from rfl, scramble32_zero]
    exact BitVec.xor_zero.symm
  | case3 => rfl

/-- What `body64` and `body32` have in common: `body` consumes whole `n`-byte blocks with `step` and
hands a shorter, non-empty rest to `tail`. -/
structure BlockLoop {α : Type} (n : Nat) (step tail body : α → List Nat → α) : Prop where
  pos : 0 < n
  block : ∀ h b rest, b.length = n → body h (b ++ rest) = body (step h b) rest
  nil : ∀ h, body h [] = h
  short : ∀ h t, t.length < n → t ≠ [] → body h t = tail h t

namespace BlockLoop
variable {α : Type} {n : Nat} {step tail body : α → List Nat → α}
  (L : BlockLoop n step tail body)
include L

theorem append {pre : List Nat} (hp : pre.length % n = 0) (h : α) (rest : List Nat) :
    body h (pre ++ rest) = body (body h pre) rest := by
  obtain ⟨k, hk⟩ : ∃ k, pre.length = n * k :=
    ⟨pre.length / n, by have := Nat.div_add_mod pre.length n; omega⟩
  induction k generalizing pre h with
  | zero => rw [List.eq_nil_of_length_eq_zero hk, L.nil]; rfl
  | succ k ih =>
    have hn : n ≤ pre.length := by rw [hk, Nat.mul_succ]; exact Nat.le_add_left _ _
    have ht : (pre.take n).length = n := by rw [List.length_take]; exact Nat.min_eq_left hn
    have hd : (pre.drop n).length = n * k := by
      rw [List.length_drop, hk, Nat.mul_succ, Nat.add_sub_cancel]
    rw [← List.take_append_drop n pre, List.append_assoc, L.block _ _ _ ht, L.block _ _ _ ht,
      ih (by rw [hd]; exact Nat.mul_mod_right _ _) _ hd]

theorem inj (hs : ∀ b {h1 h2}, step h1 b = step h2 b → h1 = h2)
    (ht : ∀ t {h1 h2}, tail h1 t = tail h2 t → h1 = h2) (l : List Nat) :
    ∀ {h1 h2}, body h1 l = body h2 l → h1 = h2 := by
  induction hlen : l.length using Nat.strongRecOn generalizing l with
  | _ m ih =>
    intro h1 h2 e
    by_cases hn : n ≤ l.length
    · have htk : (l.take n).length = n := by rw [List.length_take]; exact Nat.min_eq_left hn
      rw [← List.take_append_drop n l, L.block _ _ _ htk, L.block _ _ _ htk] at e
      have hpos := L.pos
      exact hs _ (ih _ (by rw [List.length_drop]; omega) _ rfl e)
    · by_cases hl : l = []
      · rw [hl, L.nil, L.nil] at e; exact e
      · rw [L.short _ _ (by omega) hl, L.short _ _ (by omega) hl] at e; exact ht _ e

theorem words {β : Type} {bytes : β → List Nat} (hb : ∀ w, (bytes w).length = n) (ws : List β)
    (h : α) :
    body h (ws.flatMap bytes) = ws.foldl (fun h w => step h (bytes w)) h := by
  induction ws generalizing h with
  | nil => exact L.nil h
  | cons w ws ih => rw [List.flatMap_cons, L.block _ _ _ (hb w), ih, List.foldl_cons]

/-- Padding `z` that stays inside the last block reaches `body` only through `tail`: if `tail` does
not see it, neither does `body`. -/
theorem pad {l z : List Nat} (hb : (l.length + z.length) / n = l.length / n)
    (ht : ∀ h t, tail h (t ++ z) = tail h t) (h0 : l.length % n = 0 → ∀ h, tail h [] = h) (h : α) :
    body h (l ++ z) = body h l := by
  by_cases hz : z = []
  · rw [hz, List.append_nil]
  obtain ⟨pre, t, rfl, hp, hlt⟩ := split_blocks n l
  have hp0 : pre.length % n = 0 := by rw [hp]; exact Nat.mul_mod_right _ _
  have hfit : (t ++ z).length < n := by
    have h1 := Nat.lt_mul_div_succ ((pre ++ t).length + z.length) L.pos
    have h2 := Nat.div_add_mod (pre ++ t).length n
    rw [hb, Nat.mul_succ] at h1
    rw [List.length_append, hlt]
    omega
  rw [List.append_assoc, L.append hp0, L.append hp0, L.short _ _ hfit (by simp [hz]), ht]
  by_cases htn : t = []
  · rw [htn, L.nil, h0 (by rw [← hlt, htn]; rfl)]
  · rw [L.short _ _ (by rw [List.length_append] at hfit; omega) htn]

end BlockLoop

theorem body64_loop (m : BitVec 64) :
    BlockLoop 8 (fun h b => step64 m h (leWord64 b)) (fun h t => step64 m h (leWord64 t))
      (body64 m) where
  pos := by decide
  block h b rest hb := by
    obtain ⟨b0, b1, b2, b3, b4, b5, b6, b7, r, rfl⟩ := exists_cons8 b (Nat.le_of_eq hb.symm)
    obtain rfl : r = [] :=
      List.eq_nil_of_length_eq_zero (by simp only [List.length_cons] at hb; omega)
    exact body64.eq_1 ..
  nil h := body64.eq_2 m h
  short h t hl hne := body64_short m h t hl hne

theorem body32_loop (c : K32) :
    BlockLoop 4 (fun h b => step32 c h (leWord32 b))
      (fun h t => h ^^^ scramble32 c.c1 c.c2 c.r1 (leWord32 t))
      (body32 c) where
  pos := by decide
  block h b rest hb := by
    obtain ⟨b0, b1, b2, b3, r, rfl⟩ := exists_cons4 b (Nat.le_of_eq hb.symm)
    obtain rfl : r = [] :=
      List.eq_nil_of_length_eq_zero (by simp only [List.length_cons] at hb; omega)
    exact body32.eq_1 ..
  nil h := body32.eq_2 c h
  short h t hl _ := body32_short c h t hl

theorem body32_inj {l : List Nat} {h1 h2 : BitVec 32}
    (h : body32 k32 h1 l = body32 k32 h2 l) : h1 = h2 :=
  (body32_loop k32).inj (fun _ => step32_inj_h) (fun _ => (BitVec.xor_left_inj _).mp) l h

theorem body32_append_zeros (c : K32) (h : BitVec 32) {l : List Nat} {k : Nat}
    (hb : (l.length + k) / 4 = l.length / 4) :
    body32 c h (l ++ List.replicate k 0) = body32 c h l :=
  (body32_loop c).pad (by rwa [List.length_replicate])
    (fun h t => by simp only [leWord32_append_zeros])
    (fun _ h => by rw [show leWord32 [] = 0 from rfl, scramble32_zero]; exact BitVec.xor_zero) h

/-- `hr`: `body64` has a tail step only when the tail is not empty. -/
theorem body64_append_zeros (m h : BitVec 64) {l : List Nat} {k : Nat}
    (hb : (l.length + k) / 8 = l.length / 8) (hr : l.length % 8 ≠ 0) :
    body64 m h (l ++ List.replicate k 0) = body64 m h l :=
  (body64_loop m).pad (by rwa [List.length_replicate])
    (fun h t => by simp only [leWord64_append_zeros])
    (fun h0 => absurd h0 hr) h

/-- A tail step with the word 0 is one more multiplication. -/
theorem body64_zeros_aligned (m h : BitVec 64) {l : List Nat} {k : Nat} (hl : l.length % 8 = 0)
    (hk : 0 < k) (hk7 : k < 8) : body64 m h (l ++ List.replicate k 0) = body64 m h l * m := by
  have hne : List.replicate k 0 ≠ [] := by
    simp only [ne_eq, List.replicate_eq_nil_iff]
    omega
  rw [(body64_loop m).append hl, body64_short _ _ _ (by rwa [List.length_replicate]) hne,
    leWord64_zeros, step64, mix64_zero, BitVec.xor_zero]

theorem length_bytesOfWord64 (w : BitVec 64) : (bytesOfWord64 w).length = 8 := rfl

theorem length_bytesOfWord32 (w : BitVec 32) : (bytesOfWord32 w).length = 4 := rfl

theorem body64_word (m h w : BitVec 64) (rest : List Nat) :
    body64 m h (bytesOfWord64 w ++ rest) = body64 m (step64 m h w) rest := by
  rw [(body64_loop m).block _ _ _ (length_bytesOfWord64 w), leWord64_bytesOfWord64]

theorem body32_word (c : K32) (h w : BitVec 32) (rest : List Nat) :
    body32 c h (bytesOfWord32 w ++ rest) = body32 c (step32 c h w) rest := by
  rw [(body32_loop c).block _ _ _ (length_bytesOfWord32 w), leWord32_bytesOfWord32]

theorem body64_words (m : BitVec 64) (ws : List (BitVec 64)) (h : BitVec 64) :
    body64 m h (ws.flatMap bytesOfWord64) = ws.foldl (step64 m) h := by
  rw [(body64_loop m).words length_bytesOfWord64]
  simp only [leWord64_bytesOfWord64]

theorem body32_words (c : K32) (ws : List (BitVec 32)) (h : BitVec 32) :
    body32 c h (ws.flatMap bytesOfWord32) = ws.foldl (step32 c) h := by
  rw [(body32_loop c).words length_bytesOfWord32]
  simp only [leWord32_bytesOfWord32]

theorem length_flatMap_of_length {β : Type} {bytes : β → List Nat} {n : Nat}
    (hb : ∀ w, (bytes w).length = n) (ws : List β) :
    (ws.flatMap bytes).length = n * ws.length := by
  induction ws with
  | nil => rfl
  | cons w ws ih =>
    rw [List.flatMap_cons, List.length_append, ih, hb, List.length_cons, Nat.mul_succ,
      Nat.add_comm]

theorem digest64_eq (seed : BitVec 64) (d : List Nat) :
    digest64 seed d = mix64 (body64 m64 (seed ^^^ (BitVec.ofNat 64 d.length * m64)) d) := rfl

theorem digest64Aligned_eq (seed : BitVec 64) (ws : List (BitVec 64)) :
    digest64Aligned seed ws =
      mix64 (ws.foldl (step64 (BitVec.ofNat 64 d64MulAligned))
        (seed ^^^ (BitVec.ofNat 64 (8 * ws.length) * BitVec.ofNat 64 d64MulAligned))) := rfl

theorem digest32_eq (seed : BitVec 32) (d : List Nat) :
    digest32 seed d = mix32 (body32 k32 seed d ^^^ BitVec.ofNat 32 d.length) := rfl

theorem digest32Aligned_eq (seed : BitVec 32) (ws : List (BitVec 32)) :
    digest32Aligned seed ws =
      mix32 (ws.foldl (step32 k32Aligned) seed ^^^ BitVec.ofNat 32 (4 * ws.length)) := rfl

theorem body64_m64_inj {l : List Nat} {h1 h2 : BitVec 64}
    (h : body64 m64 h1 l = body64 m64 h2 l) : h1 = h2 :=
  (body64_loop m64).inj (fun _ => step64_inj_h d64Mul_inv) (fun _ => step64_inj_h d64Mul_inv) l h

theorem ofNat_ne_of_lt (w a k : Nat) (hk : 0 < k) (hlt : a + k < 2 ^ w) :
    BitVec.ofNat w (a + k) ≠ BitVec.ofNat w a := by
  intro e
  have := congrArg BitVec.toNat e
  rw [BitVec.toNat_ofNat, BitVec.toNat_ofNat, Nat.mod_eq_of_lt hlt,
    Nat.mod_eq_of_lt (by omega)] at this
  omega

/-- From a length `n` of no or one whole block, `k` more bytes change the length term so that one
further multiplication cannot undo it.  A fact of `d64Mul` modulo `2^5` with no shorter reason than
trying the 5-bit states; 5 is the least width, modulo `2^4` some `z` and `k` give equality. -/
theorem lengthTerm_ne_mod32 : ∀ k : Fin 8, 0 < k.val → ∀ z : BitVec 5, ∀ n ∈ [0, 8],
    (z ^^^ BitVec.ofNat 5 (n + k.val) * BitVec.ofNat 5 d64Mul) * BitVec.ofNat 5 d64Mul ≠
      z ^^^ BitVec.ofNat 5 n * BitVec.ofNat 5 d64Mul := by decide

/-- Truncation to 5 bits commutes with `*` and `^^^`, so an equation at 64 bits would be one at
5. -/
theorem lengthTerm_ne {n k : Nat} (hn : n = 0 ∨ n = 8) (hk : 0 < k) (hk7 : k < 8) (z : BitVec 64) :
    (z ^^^ BitVec.ofNat 64 (n + k) * m64) * m64 ≠ z ^^^ BitVec.ofNat 64 n * m64 := by
  intro e
  have e5 := congrArg (BitVec.setWidth 5) e
  simp only [BitVec.setWidth_mul _ _ (show 5 ≤ 64 by omega), BitVec.setWidth_xor,
    BitVec.setWidth_ofNat_of_le (show 5 ≤ 64 by omega)] at e5
  exact lengthTerm_ne_mod32 ⟨k, hk7⟩ hk _ n (by simpa using hn) e5

end Zix.Digest

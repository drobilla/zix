import ZixModel.Model.FsLink
import ZixModel.Lemmas.Fs
/-! Path resolution with symbolic links.  `walk` is seen one `step` at a time; a successful `walk`
is a resolution `Res` in fewer steps than there is fuel (`walk_ok`, `Res.walk`), and what is needed
of resolutions (they survive growth of the tree, split and join) is proved of `Res`, where the steps
add up; then what `isDir` and `mkdir` of the tree with links do, in these terms. -/
namespace Zix.FsLink
open Zix.Path

/-- One step of `walk`: the next physical directory and the components spliced in front of the
rest. -/
def step (t : Tree) (cur : List (List Nat)) (c : List Nat) :
    Except Int (List (List Nat) × List (List Nat)) :=
  match t.lookup cur with
  | some .dir =>
    if c = [dot] then .ok (cur, [])
    else if c = [dot, dot] then .ok (cur.dropLast, [])
    else
      match t.lookup (cur ++ [c]) with
      | none => .error 2
      | some (.link tgt) => .ok (if isSep (tgt.headD 0) then [] else cur, comps tgt)
      | some _ => .ok (cur ++ [c], [])
  | some _ => .error 20
  | none => .error 2

theorem walk_zero (t : Tree) (cur : List (List Nat)) (cs : List (List Nat)) :
    walk t 0 cur cs = .error 40 := by
  unfold walk; rfl

theorem walk_nil (t : Tree) (f : Nat) (cur : List (List Nat)) :
    walk t (f + 1) cur [] = .ok cur := by
  unfold walk; rfl

theorem walk_cons (t : Tree) (f : Nat) (cur : List (List Nat)) (c : List Nat)
    (rest : List (List Nat)) :
    walk t (f + 1) cur (c :: rest) =
      match step t cur c with
      | .ok (cur', X) => walk t f cur' (X ++ rest)
      | .error e => .error e := by
  rw [walk.eq_3]
  fun_cases step t cur c <;>
    simp only [*, if_true, if_false, List.nil_append, List.cons.injEq, reduceCtorEq, and_false]

theorem walk_error (t : Tree) : ∀ f cur cs e, walk t f cur cs = .error e → e ≠ 0 := by
  intro f cur cs e
  fun_induction walk t f cur cs <;> intro h
  -- the four branches of `walk` that go on: ".", "..", a link, a plain name
  case case3 ih | case4 ih | case6 ih | case7 ih => exact ih h
  -- of the others `.ok cur` goes, the rest fail with the literals 40, 2 and 20
  all_goals cases h <;> decide

def Tree.le (t t' : Tree) : Prop := ∀ x k, t.lookup x = some k → t'.lookup x = some k

theorem step_le {t t' : Tree} (h : Tree.le t t') (cur : List (List Nat)) (c : List Nat)
    (r : List (List Nat) × List (List Nat)) (hs : step t cur c = .ok r) :
    step t' cur c = .ok r := by
  unfold step at hs ⊢
  cases hl : t.lookup cur with
  | none => rw [hl] at hs; cases hs
  | some k =>
    cases k with
    | file => rw [hl] at hs; cases hs
    | link tgt => rw [hl] at hs; cases hs
    | dir =>
      rw [hl] at hs
      rw [h _ _ hl]
      by_cases hd : c = [dot]
      · simpa only [hd, if_true] using hs
      · simp only [hd, if_false] at hs ⊢
        by_cases hdd : c = [dot, dot]
        · simpa only [hdd, if_true] using hs
        · simp only [hdd, if_false] at hs ⊢
          cases h2 : t.lookup (cur ++ [c]) with
          | none => rw [h2] at hs; cases hs
          | some k2 =>
            rw [h2] at hs
            rw [h _ _ h2]
            exact hs

/-- The components `cs` resolve from `cur` to `p` in `n` steps. -/
inductive Res (t : Tree) : List (List Nat) → List (List Nat) → List (List Nat) → Nat → Prop
  | nil (cur : List (List Nat)) : Res t cur [] cur 0
  | cons {cur cur' X rest p : List (List Nat)} {c : List Nat} {n : Nat} :
      step t cur c = .ok (cur', X) → Res t cur' (X ++ rest) p n → Res t cur (c :: rest) p (n + 1)

theorem Res.walk {t : Tree} {cur cs p : List (List Nat)} {n : Nat} (h : Res t cur cs p n) :
    ∀ {f}, n < f → walk t f cur cs = .ok p := by
  induction h with
  | nil cur =>
    intro f hf
    cases f with
    | zero => exact absurd hf (Nat.lt_irrefl 0)
    | succ f => exact walk_nil t f cur
  | cons hs _ ih =>
    intro f hf
    cases f with
    | zero => exact absurd hf (Nat.not_lt_zero _)
    | succ f => rw [walk_cons, hs]; exact ih (Nat.lt_of_succ_lt_succ hf)

theorem walk_ok {t : Tree} : ∀ {f : Nat} {cur cs p : List (List Nat)}, walk t f cur cs = .ok p →
    ∃ n, n < f ∧ Res t cur cs p n := by
  intro f
  induction f with
  | zero =>
    intro cur cs p h
    rw [walk_zero] at h
    cases h
  | succ f ih =>
    intro cur cs p h
    cases cs with
    | nil =>
      rw [walk_nil] at h
      cases h
      exact ⟨0, Nat.succ_pos _, .nil _⟩
    | cons c rest =>
      rw [walk_cons] at h
      cases hs : step t cur c with
      | error e => rw [hs] at h; cases h
      | ok r =>
        rw [hs] at h
        obtain ⟨n, hn, hr⟩ := ih h
        exact ⟨n + 1, Nat.succ_lt_succ hn, .cons hs hr⟩

theorem walk_le_fuel (t : Tree) (f g : Nat) (hfg : f ≤ g) (cur : List (List Nat)) (cs : List (List Nat))
    (p : List (List Nat)) (h : walk t f cur cs = .ok p) : walk t g cur cs = .ok p := by
  obtain ⟨n, hn, hr⟩ := walk_ok h
  exact hr.walk (Nat.lt_of_lt_of_le hn hfg)

theorem Res.mono {t t' : Tree} (hle : Tree.le t t') {cur cs p : List (List Nat)} {n : Nat}
    (h : Res t cur cs p n) : Res t' cur cs p n := by
  induction h with
  | nil cur => exact .nil cur
  | cons hs _ ih => exact .cons (step_le hle _ _ _ hs) ih

theorem Res.join {t : Tree} {cur cs1 q : List (List Nat)} {n1 : Nat} (h1 : Res t cur cs1 q n1)
    {cs2 p : List (List Nat)} {n2 : Nat} (h2 : Res t q cs2 p n2) :
    Res t cur (cs1 ++ cs2) p (n1 + n2) := by
  induction h1 with
  | nil cur => rw [List.nil_append, Nat.zero_add]; exact h2
  | cons hs _ ih =>
    rw [List.cons_append, Nat.add_right_comm]
    refine .cons hs ?_
    rw [← List.append_assoc]; exact ih h2

theorem Res.split {t : Tree} {cs2 p : List (List Nat)} : ∀ {n : Nat} {cur cs1 : List (List Nat)},
    Res t cur (cs1 ++ cs2) p n →
    ∃ q n1 n2, n1 + n2 = n ∧ Res t cur cs1 q n1 ∧ Res t q cs2 p n2 := by
  intro n
  induction n with
  | zero =>
    intro cur cs1 h
    cases cs1 with
    | nil => exact ⟨cur, 0, 0, rfl, .nil cur, h⟩
    | cons c r => cases h
  | succ n ih =>
    intro cur cs1 h
    cases cs1 with
    | nil => exact ⟨cur, 0, n + 1, Nat.zero_add _, .nil cur, h⟩
    | cons c r =>
      cases h with
      | cons hs h =>
        obtain ⟨q, n1, n2, hn, h1, h2⟩ := ih (cs1 := _ ++ r) (by rw [List.append_assoc]; exact h)
        exact ⟨q, n1 + 1, n2, by rw [← hn, Nat.add_right_comm], .cons hs h1, h2⟩

theorem Res.dir {t : Tree} {q rest p : List (List Nat)} {c : List Nat} {n : Nat}
    (h : Res t q (c :: rest) p n) : t.lookup q = some .dir := by
  cases h with
  | cons hs _ =>
    unfold step at hs
    split at hs
    · assumption
    · cases hs
    · cases hs

def addNode (t : Tree) (p : List (List Nat)) (k : Kind) : Tree :=
  { t with nodes := t.nodes ++ [(p, k)] }

theorem addNode_le (t : Tree) (q : List (List Nat)) (k : Kind) : Tree.le t (addNode t q k) :=
  fun _ _ h => Zix.Fs.lk_append _ h

/-- Stated for an arbitrary predicate of the result, so that the case analysis works on a small
goal. -/
theorem mkdir_elim {Q : Tree × Option Int → Prop} (t : Tree) (s : List Nat)
    (herr : ∀ e, e ≠ 0 → Q (t, some e))
    (hok : ∀ pre par last, comps s = pre ++ [last] →
      walk t (walkFuel - 1) (t.start s) pre = .ok par → t.lookup par = some .dir →
      last ≠ [dot] → last ≠ [dot, dot] → t.lookup (par ++ [last]) = none →
      Q (addNode t (par ++ [last]) .dir, none)) :
    Q (mkdir t s) := by
  fun_cases mkdir t s with
  | case2 cs last hl e hpar => exact herr e (walk_error _ _ _ _ _ hpar)
  | case6 cs last hl par hpar hk hd hn =>  -- the last branch of `mkdir`: the directory is added
    obtain ⟨pre, hcs⟩ := List.getLast?_eq_some_iff.1 hl
    rw [hcs, List.dropLast_concat] at hpar
    exact hok pre par last hcs hpar (Classical.not_not.1 hk) (fun h => hd (Or.inl h))
      (fun h => hd (Or.inr h)) (by simpa using hn)
  | _ => exact herr _ (by decide)  -- every other branch returns `t` and a literal errno

theorem mkdir_err (t t' : Tree) (s : List Nat) (e : Int) (h : mkdir t s = (t', some e)) :
    t' = t ∧ e ≠ 0 :=
  mkdir_elim (Q := fun r => r = (t', some e) → t' = t ∧ e ≠ 0) t s
    (fun _ he h => by cases h; exact ⟨rfl, he⟩) (fun _ _ _ _ _ _ _ _ _ h => by cases h) h

theorem mkdir_ok (t t' : Tree) (s : List Nat) (h : mkdir t s = (t', none)) :
    ∃ pre par last, comps s = pre ++ [last] ∧ walk t (walkFuel - 1) (t.start s) pre = .ok par ∧
      t.lookup par = some .dir ∧ last ≠ [dot] ∧ last ≠ [dot, dot] ∧
      t.lookup (par ++ [last]) = none ∧ t' = addNode t (par ++ [last]) .dir :=
  mkdir_elim (Q := fun r => r = (t', none) → _) t s (fun _ _ h => by cases h)
    (fun pre par last h1 h2 h3 h4 h5 h6 h => by
      cases h
      exact ⟨pre, par, last, h1, h2, h3, h4, h5, h6, rfl⟩) h

theorem isDir_iff (t : Tree) (s : List Nat) : isDir t s = true ↔
    s ≠ [] ∧ ∃ p n, n < walkFuel ∧ Res t (t.start s) (comps s) p n ∧ t.lookup p = some .dir := by
  unfold isDir statKind
  by_cases hs : s = []
  · simp [hs]
  · rw [if_neg hs]
    constructor
    · intro h
      cases hw : walk t walkFuel (t.start s) (comps s) with
      | error e => rw [hw] at h; simp at h
      | ok p =>
        rw [hw] at h
        obtain ⟨n, hn, hr⟩ := walk_ok hw
        exact ⟨hs, p, n, hn, hr, by simpa using h⟩
    · rintro ⟨_, p, n, hn, hr, hp⟩
      rw [hr.walk hn]; simpa using hp

theorem isDir_le {t t' : Tree} (h : Tree.le t t') (hc : t'.cwd = t.cwd) (s : List Nat)
    (hd : isDir t s = true) : isDir t' s = true := by
  rw [isDir_iff] at hd ⊢
  obtain ⟨hs, p, n, hn, hr, hp⟩ := hd
  have hst : t'.start s = t.start s := by unfold Tree.start; rw [hc]
  exact ⟨hs, p, n, hn, by rw [hst]; exact hr.mono h, h _ _ hp⟩

theorem isDir_prefix (t : Tree) (s : List Nat) (k : Nat) (h : isDir t s = true) (hk0 : 0 < k)
    (hk : k ≤ s.length)
    (hb : k = s.length ∨ isSep (s.getD k 0) = true ∨ isSep (s.getD (k - 1) 0) = true) :
    isDir t (s.take k) = true := by
  rw [isDir_iff] at h ⊢
  obtain ⟨hs, p, n, hn, hr, hp⟩ := h
  obtain ⟨rest, hrest⟩ := Zix.Fs.comps_take_prefix s k hk hb hk0
  rw [show comps s = _ from hrest] at hr
  obtain ⟨q, n1, n2, hsum, h1, h2⟩ := hr.split
  refine ⟨fun h => (List.take_eq_nil_iff.1 h).elim (Nat.ne_of_gt hk0) hs, q, n1,
    Nat.lt_of_le_of_lt (hsum ▸ Nat.le_add_right n1 n2) hn, ?_, ?_⟩
  · unfold Tree.start
    rw [Zix.Fs.headD_take s k hk0]
    exact h1
  · cases rest with
    | nil => cases h2; exact hp
    | cons c rest => exact h2.dir

theorem isDir_seps (t : Tree) (s : List Nat) (hs : s ≠ []) (h : ∀ c ∈ s, isSep c = true) :
    isDir t s = true := by
  rw [isDir_iff]
  refine ⟨hs, [], 0, by decide, ?_, rfl⟩
  rw [show comps s = [] from Zix.Fs.comps_seps s h]
  have : t.start s = [] := by
    unfold Tree.start
    cases s with
    | nil => exact absurd rfl hs
    | cons a r => simp [h a (by simp)]
  rw [this]; exact .nil []

/-- The parent was resolved with one step to spare, which the new component takes. -/
theorem mkdir_ok_isDir (t t' : Tree) (s : List Nat) (h : mkdir t s = (t', none)) :
    isDir t' s = true := by
  obtain ⟨pre, par, last, hcs, hpar, hpk, hl1, hl2, hnone, ht'⟩ := mkdir_ok t t' s h
  have hle : Tree.le t t' := by rw [ht']; exact addNode_le t _ _
  have hnew : t'.lookup (par ++ [last]) = some .dir := by
    rw [ht']; exact Zix.Fs.lk_append_new _ (by simp) hnone
  obtain ⟨n, hn, hr⟩ := walk_ok hpar
  have h2 : Res t' par [last] (par ++ [last]) 1 :=
    .cons (cur' := par ++ [last]) (X := [])
      (by simp only [step, hle _ _ hpk, hl1, hl2, hnew, if_false]) (.nil _)
  rw [isDir_iff]
  refine ⟨?_, par ++ [last], n + 1, Nat.add_lt_of_lt_sub hn, ?_, hnew⟩
  · intro hs
    rw [hs, show comps [] = [] by decide] at hcs
    cases pre <;> cases hcs
  · rw [hcs, show t'.start s = t.start s by rw [ht']; rfl]
    exact (hr.mono hle).join h2

theorem mkdir_of_isDir (t : Tree) (s : List Nat) (h : isDir t s = true) :
    mkdir t s = (t, some 17) := by
  rw [isDir_iff] at h
  obtain ⟨_, p, n, hn, hr, hp⟩ := h
  unfold mkdir
  simp only
  rcases List.eq_nil_or_concat (comps s) with hcs | ⟨pre, last, hcs⟩
  · rw [hcs]; rfl
  rw [List.concat_eq_append] at hcs
  rw [hcs] at hr ⊢
  rw [List.getLast?_concat, List.dropLast_concat]
  -- `mkdir` resolves the parent with fuel `walkFuel - 1`: that is enough, since of the
  -- `n1 + n2 < walkFuel` steps to `s` at least one (`n2`, the `cons` below) goes from the parent
  -- through the last component
  obtain ⟨q, n1, n2, hsum, h1, h2⟩ := hr.split
  have hq := h2.dir
  cases h2 with
  | cons hs _ =>
    rw [h1.walk (show n1 < walkFuel - 1 by omega)]
    simp only [hq, ne_eq, not_true_eq_false, if_false]
    by_cases hd : last = [dot] ∨ last = [dot, dot]
    · rw [if_pos hd]
    · rw [if_neg hd]
      have hsome : (t.lookup (q ++ [last])).isSome = true := by
        cases hl2 : t.lookup (q ++ [last]) with
        | some _ => rfl
        | none =>
          have hd1 : last ≠ [dot] := fun h => hd (Or.inl h)
          have hd2 : last ≠ [dot, dot] := fun h => hd (Or.inr h)
          simp only [step, hq, hl2, hd1, hd2, if_false] at hs
          cases hs
      rw [if_pos hsome]

end Zix.FsLink

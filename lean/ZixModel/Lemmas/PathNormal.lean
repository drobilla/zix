import ZixModel.Lemmas.PathScan
import ZixModel.Spec.PathNormalForm
/-! On a decomposed input both sides are functions of one stack of kept elements (`stackOf`,
reversed) and a trailing-separator wish: `normalize` gives their text `textR`, the C++17 normal form
their path value `pvR` (`normalize_canon`), each the other's `parse` and `unparse`.  The stacks that
occur are canonical (`Canon`); a canonical text is again a decomposition with the stack it came
from, hence a fixed point of `normalize`; and the path values of canonical stacks are the normal
ones. -/
namespace Zix.Path.Norm
open Zix.Path Zix.PathSpec Zix.Path.Scan
open Zix.C11 (IsNormal unparse)

abbrev dd : List Nat := [dot, dot]

structure OkName (n : List Nat) : Prop where
  name : Name n
  noNul : 0 ∉ n

theorem names_ok {es : List (List Nat × Nat)} (hes : ∀ e ∈ es, OkName e.1) : ∀ e ∈ es, Name e.1 :=
  fun e he => (hes e he).name

theorem tail_ok {tail : List Nat} (ht : tail = [] ∨ OkName tail) : sep ∉ tail :=
  ht.elim (fun h => by simp [h]) (·.name.noSep)

/-- `flat` with one separator behind each name, as `normalize` writes them. -/
def flat1 : List (List Nat) → List Nat
  | [] => []
  | n :: ns => n ++ (sep :: flat1 ns)

theorem flat1_eq_flat (ns : List (List Nat)) : flat1 ns = flat (ns.map (fun n => (n, 0))) := by
  induction ns with
  | nil => rfl
  | cons n ns ih => simp [flat1, flat, ih]

theorem flat1_snoc (a : List (List Nat)) (x : List Nat) :
    flat1 (a ++ [x]) = flat1 a ++ x ++ [sep] := by
  rw [flat1_eq_flat, flat1_eq_flat, List.map_append, List.map_singleton, flat_snoc]; rfl

theorem flat1_ends (N : List (List Nat)) : EndsIn sep (flat1 N) :=
  flat1_eq_flat N ▸ flat_ends _

theorem map_fst_zero (N : List (List Nat)) :
    (N.map (fun n => ((n, 0) : List Nat × Nat))).map (·.1) = N :=
  List.map_map.trans (List.map_id N)

theorem relElems_end (s : List Nat) (fuel i : Nat) (h : s.length ≤ i) : relElems s fuel i = [] := by
  cases fuel with
  | zero => rfl
  | succ f => simp [relElems, h]

theorem relElems_step (s : List Nat) (h0 : 0 ∉ s) (fuel i : Nat) (n x : List Nat) (hn : Name n)
    (hx : isSep (x.headD 0) = true ∨ x = []) (hd : s.drop i = n ++ x) :
    relElems s (fuel + 1) i =
      (n, decide (x ≠ [])) :: relElems s fuel (i + n.length + (x.takeWhile isSep).length) := by
  have hpos : 0 < n.length := List.length_pos_iff.2 hn.ne_nil
  have hlen : s.length = i + (n.length + x.length) := by
    have := congrArg List.length hd
    rw [List.length_drop, List.length_append] at this
    omega
  have hsk : skipName s (s.length + 1) i = i + n.length := by
    rw [skipName_eq s h0, hd, (takeWhile_name n x hn.noSep hx).1]
  have hdx : s.drop (i + n.length) = x := by rw [← List.drop_drop, hd, List.drop_left]
  have hss : skipSeps s (s.length + 1) (i + n.length) =
      i + n.length + (x.takeWhile isSep).length := by
    rw [skipSeps_eq s, hdx]
  rw [relElems, if_neg (by omega)]
  dsimp only
  rw [hsk, hss, hd, Nat.add_sub_cancel_left, List.take_left]
  cases x with
  | nil => simp [hlen]
  | cons c t => simp [hlen]

theorem relElems_flat (s : List Nat) (h0 : 0 ∉ s) (es : List (List Nat × Nat)) (tail : List Nat)
    (hes : ∀ e ∈ es, Name e.1) (ht : sep ∉ tail) (fuel i : Nat)
    (hd : s.drop i = flat es ++ tail) (hf : es.length < fuel) :
    relElems s fuel i
      = (es.map (·.1)).map (fun n => (n, true)) ++ (if tail = [] then [] else [(tail, false)]) := by
  induction es generalizing fuel i with
  | nil =>
    obtain ⟨f, rfl⟩ : ∃ f, fuel = f + 1 := ⟨fuel - 1, by simp at hf; omega⟩
    by_cases htl : tail = []
    · subst htl
      rw [relElems_end _ _ _ (List.drop_eq_nil_iff.1 hd)]; rfl
    · have hdt : s.drop i = tail ++ [] := by simpa [flat] using hd
      have hend : s.length ≤ i + tail.length + (List.takeWhile isSep []).length := by
        have := congrArg List.length hdt
        simp at this ⊢; omega
      rw [relElems_step s h0 f i tail [] ⟨htl, ht⟩ (Or.inr rfl) hdt, relElems_end _ _ _ hend,
        if_neg htl]
      simp
  | cons e es ih =>
    obtain ⟨f, rfl⟩ : ∃ f, fuel = f + 1 := ⟨fuel - 1, by simp at hf; omega⟩
    have hes' : ∀ e ∈ es, Name e.1 := fun e he => hes e (List.mem_cons_of_mem _ he)
    have hhd := isSep_headD_flat es tail hes' (isSep_headD_eq_false ht)
    have hd' : s.drop i = e.1 ++ (List.replicate (e.2 + 1) sep ++ (flat es ++ tail)) := by
      rw [hd, flat, List.append_assoc, List.append_assoc]
    rw [relElems_step s h0 f i e.1 _ (hes e (by simp))
        (Or.inl (by simp [List.replicate_succ, isSep_sep])) hd',
      (takeWhile_seps _ _ hhd).1, List.length_replicate,
      ih hes' f _
        (by rw [Nat.add_assoc, ← List.drop_drop, hd', ← List.append_assoc,
          List.drop_left' (by simp)])
        (by simpa using hf)]
    simp [List.replicate_succ]

theorem relElems_decomp (k : Nat) (es : List (List Nat × Nat)) (tail : List Nat)
    (hes : ∀ e ∈ es, Name e.1) (ht : sep ∉ tail)
    (h0 : 0 ∉ List.replicate k sep ++ flat es ++ tail) :
    relElems (List.replicate k sep ++ flat es ++ tail)
        ((List.replicate k sep ++ flat es ++ tail).length + 1) k
      = (es.map (·.1)).map (fun n => (n, true)) ++ (if tail = [] then [] else [(tail, false)]) :=
  relElems_flat _ h0 es tail hes ht _ k
    (by rw [List.append_assoc, List.drop_left' (List.length_replicate ..)])
    (by
      have := length_le_flat es
      simp
      omega)

theorem zero_not_mem_decomp (k : Nat) (es : List (List Nat × Nat)) (tail : List Nat)
    (hes : ∀ e ∈ es, OkName e.1) (ht : tail = [] ∨ OkName tail) :
    0 ∉ List.replicate k sep ++ flat es ++ tail := by
  simp only [List.mem_append, List.mem_replicate, mem_flat]
  rintro ((⟨-, h⟩ | ⟨h, -⟩ | ⟨e, he, h⟩) | h)
  · exact absurd h (by decide)
  · exact absurd h (by decide)
  · exact (hes e he).noNul h
  · exact ht.elim (fun ht => by simp [ht] at h) (·.noNul h)

theorem exists_decomp_ok (s : List Nat) (h0 : 0 ∉ s) :
    ∃ k es tail, s = List.replicate k sep ++ flat es ++ tail ∧ (∀ e ∈ es, OkName e.1) ∧
      (tail = [] ∨ OkName tail) := by
  obtain ⟨k, es, tail, rfl, hes, ht⟩ := Scan.exists_decomp s
  simp only [List.mem_append, mem_flat, not_or] at h0
  refine ⟨k, es, tail, rfl, fun e he => ⟨hes e he, fun h => h0.1.2.2 ⟨e, he, h⟩⟩, ?_⟩
  by_cases htl : tail = []
  · exact Or.inl htl
  · exact Or.inr ⟨⟨htl, ht⟩, h0.2⟩

/-- One element on the stack of kept elements (reversed: head = last element), as
`PathSpec.normStack` treats it. -/
def stackStep (root : Bool) (acc : List (List Nat)) (n : List Nat) : List (List Nat) :=
  if n = [dot] then acc
  else if n = dd then
    match acc with
    | prev :: acc' => if prev ≠ dd then acc' else n :: acc
    | [] => if root then acc else n :: acc
  else n :: acc

theorem normStack_eq (root : Bool) (l acc : List (List Nat)) :
    normStack root l acc = (l.foldl (stackStep root) acc).reverse := by
  fun_induction normStack root l acc with
  | case1 => rfl
  | case2 rest out ih =>
    rw [ih]
    simp [stackStep]
  | case3 rest prev out' h _ ih =>
    rw [ih]
    simp [stackStep, h]
  | case4 rest prev out' h _ ih =>
    rw [ih]
    simp [stackStep, h]
  | case5 rest h _ ih =>
    rw [ih]
    simp [stackStep, h]
  | case6 rest h _ ih =>
    rw [ih]
    simp [stackStep, h]
  | case7 n rest out h1 h2 ih =>
    rw [ih]
    simp [stackStep, h1, h2]

/-- The stacks `stackStep` leaves: no dot, dot-dots only at the bottom, and none under the root. -/
structure Canon (root : Bool) (st : List (List Nat)) : Prop where
  names : ∀ x ∈ st, OkName x ∧ x ≠ [dot]
  underRoot : root = true → dd ∉ st
  upsBelow : st.Pairwise (fun x y => x = dd → y = dd)

theorem Canon.ok {root : Bool} {st : List (List Nat)} (h : Canon root st) : ∀ x ∈ st, OkName x :=
  fun x hx => (h.names x hx).1

theorem Canon.nil (root : Bool) : Canon root [] := ⟨by simp, by simp, List.Pairwise.nil⟩

theorem canon_cons {root : Bool} {n : List Nat} {acc : List (List Nat)} :
    Canon root (n :: acc) ↔
      (OkName n ∧ n ≠ [dot]) ∧ (root = true → n ≠ dd) ∧ (n = dd → ∀ y ∈ acc, y = dd) ∧
        Canon root acc := by
  constructor
  · intro h
    have hp := List.pairwise_cons.1 h.upsBelow
    exact ⟨h.names n (List.mem_cons_self ..),
      fun hr e => h.underRoot hr (e ▸ List.mem_cons_self ..),
      fun hn y hy => hp.1 y hy hn, fun y hy => h.names y (List.mem_cons_of_mem _ hy),
      fun hr hm => h.underRoot hr (List.mem_cons_of_mem _ hm), hp.2⟩
  · rintro ⟨h1, h3, h4, h⟩
    refine ⟨List.forall_mem_cons.2 ⟨h1, h.names⟩, fun hr hm => ?_,
      List.pairwise_cons.2 ⟨fun y hy hn => h4 hn y hy, h.upsBelow⟩⟩
    exact (List.mem_cons.1 hm).elim (fun e => h3 hr e.symm) (h.underRoot hr)

theorem Canon.append_right {root : Bool} {a st : List (List Nat)} (h : Canon root (a ++ st)) :
    Canon root st :=
  ⟨fun y hy => h.names y (by simp [hy]), fun hr hm => h.underRoot hr (by simp [hm]),
    (List.pairwise_append.1 h.upsBelow).2.1⟩

theorem stackStep_canon (root : Bool) (acc : List (List Nat)) (n : List Nat)
    (hacc : Canon root acc) (hn : OkName n) : Canon root (stackStep root acc n) := by
  fun_cases stackStep root acc n with
  | case1 | case4 => exact hacc  -- dot, or dot-dot at the root: dropped
  | case2 => exact (canon_cons.1 hacc).2.2.2  -- dot-dot takes a name off
  | case3 h1 h2 prev acc' h3 =>
    obtain rfl : prev = dd := Decidable.not_not.1 h3
    refine canon_cons.2
      ⟨⟨hn, h1⟩, fun hr => absurd (List.mem_cons_self ..) (hacc.underRoot hr), fun _ y hy => ?_,
        hacc⟩
    rcases List.mem_cons.1 hy with rfl | hy
    · rfl
    · exact (canon_cons.1 hacc).2.2.1 rfl y hy
  | case5 h1 h2 hr =>
    exact canon_cons.2
      ⟨⟨hn, h1⟩, fun h => absurd h hr, fun _ _ hy => absurd hy List.not_mem_nil, hacc⟩
  | case6 _ h1 h2 => exact canon_cons.2 ⟨⟨hn, h1⟩, fun _ => h2, fun h => absurd h h2, hacc⟩

theorem stackStep_push {root : Bool} {n : List Nat} {acc : List (List Nat)}
    (hc : Canon root (n :: acc)) : stackStep root acc n = n :: acc := by
  obtain ⟨h1, hr, hd, -⟩ := canon_cons.1 hc
  fun_cases stackStep root acc n with
  | case1 _ h => exact absurd h h1.2
  | case2 _ h2 prev acc' h3 => exact absurd (hd h2 prev (List.mem_cons_self ..)) h3
  | case4 _ h2 h => exact absurd h2 (hr h)
  | case3 | case5 | case6 => rfl

theorem foldl_stackStep_canon (root : Bool) (names acc : List (List Nat))
    (hacc : Canon root acc) (hn : ∀ n ∈ names, OkName n) :
    Canon root (names.foldl (stackStep root) acc) := by
  fun_induction List.foldl (stackStep root) acc names with
  | case1 => exact hacc
  | case2 acc n ns ih =>
    exact ih (stackStep_canon root acc n hacc (hn n (by simp))) (fun m hm => hn m (by simp [hm]))

theorem canon_fold (root : Bool) (N acc : List (List Nat)) (h : Canon root (N.reverse ++ acc)) :
    N.foldl (stackStep root) acc = N.reverse ++ acc := by
  induction N generalizing acc with
  | nil => rfl
  | cons n N' ih =>
    rw [List.reverse_cons, List.append_assoc, List.singleton_append] at h ⊢
    rw [List.foldl_cons, stackStep_push h.append_right]
    exact ih _ h

/-- The stack that a decomposed input leaves: its names and, when not empty, its last name. -/
def stackOf (root : Bool) (names : List (List Nat)) (tail : List Nat) : List (List Nat) :=
  (names ++ (if tail = [] then [] else [tail])).foldl (stackStep root) []

theorem stackOf_canon (root : Bool) (es : List (List Nat × Nat)) (tail : List Nat)
    (hes : ∀ e ∈ es, OkName e.1) (ht : tail = [] ∨ OkName tail) :
    Canon root (stackOf root (es.map (·.1)) tail) := by
  apply foldl_stackStep_canon root _ [] (Canon.nil root)
  intro n hn
  rcases List.mem_append.1 hn with hn | hn
  · exact List.forall_mem_map.2 hes n hn
  · by_cases h : tail = []
    · simp [h] at hn
    · simp [h] at hn
      subst hn
      exact ht.resolve_left h

/-- The normal path given by a (reversed) element stack and a trailing-separator wish `b`: the names
that a separator follows, and the last name (empty after a trailing separator; a dot-dot gets none;
dot for the empty relative path). -/
def parts (root : Bool) (st : List (List Nat)) (b : Bool) : List (List Nat) × List Nat :=
  match st with
  | [] => ([], if root then [] else [dot])
  | x :: st' => if b = true ∧ x ≠ dd then ((x :: st').reverse, []) else (st'.reverse, x)

/-- The text of that path: what `normalize` returns (`normalize_decomp`).  `R`: of a reversed
stack. -/
def textR (root : Bool) (st : List (List Nat)) (b : Bool) : List Nat :=
  rootText root ++ flat1 (parts root st b).1 ++ (parts root st b).2

/-- The path value of the same normal path, in the shape of the result of `PathSpec.normal`. -/
def pvR (root : Bool) (st : List (List Nat)) (b : Bool) : P :=
  if !root ∧ st = [] then ⟨false, [[dot]]⟩
  else ⟨root, st.reverse ++ if st ≠ [] ∧ st.head? ≠ some dd ∧ b = true then [[]] else []⟩

theorem pvR_cons (root : Bool) (x : List Nat) (st' : List (List Nat)) (b : Bool) :
    pvR root (x :: st') b =
      ⟨root, (x :: st').reverse ++ if b = true ∧ x ≠ dd then [[]] else []⟩ := by
  simp [pvR, and_comm]

theorem parts_ok (root : Bool) (st : List (List Nat)) (b : Bool) (hst : ∀ x ∈ st, OkName x) :
    (∀ n ∈ (parts root st b).1, OkName n) ∧
      ((parts root st b).2 = [] ∨ OkName (parts root st b).2) := by
  fun_cases parts root st b with
  | case1 =>
    refine ⟨fun n hn => absurd hn List.not_mem_nil, ?_⟩
    cases root
    · exact Or.inr (show OkName [dot] from ⟨⟨by decide, by decide⟩, by decide⟩)
    · exact Or.inl rfl
  | case2 x st' => exact ⟨fun n hn => hst n (List.mem_reverse.1 hn), Or.inl rfl⟩
  | case3 x st' =>
    exact ⟨fun n hn => hst n (by simp [List.mem_reverse.1 hn]), Or.inr (hst x (by simp))⟩

theorem stackOf_parts (root : Bool) (st : List (List Nat)) (b : Bool) (hc : Canon root st) :
    stackOf root (parts root st b).1 (parts root st b).2 = st := by
  unfold stackOf
  fun_cases parts root st b with
  | case1 => cases root <;> rfl
  | case2 x st' =>
    rw [if_pos rfl, List.append_nil, canon_fold root _ [] (by simpa using hc)]
    simp
  | case3 x st' =>
    rw [if_neg (hc.ok x (by simp)).name.ne_nil, ← List.reverse_cons,
      canon_fold root _ [] (by simpa using hc)]
    simp

/-- The wish that `normalize_decomp` reads off the last name of a canonical text gives the same
parts. -/
theorem parts_wish_of_last (root : Bool) (st : List (List Nat)) (b : Bool) (hc : Canon root st) :
    parts root st
        (decide ((parts root st b).2 = [] ∨ (parts root st b).2 = [dot] ∨ (parts root st b).2 = dd))
      = parts root st b := by
  fun_cases parts root st b with
  | case1 => rfl
  | case2 x st' hb => simp [parts, hb]
  | case3 x st' =>
    have hx := hc.names x (by simp)
    simp [parts, hx.1.name.ne_nil, hx.2]

theorem textR_ne_nil (root : Bool) (st : List (List Nat)) (b : Bool) (hc : Canon root st) :
    textR root st b ≠ [] := by
  unfold textR
  fun_cases parts root st b with
  | case1 => cases root <;> simp [rootText]  -- empty stack: the root or a dot
  | case2 x st' hb => simp [flat1_snoc]
  | case3 x st' hb => simp [(hc.ok x (by simp)).name.ne_nil]

theorem lastElem_snoc (R B x : List Nat) (hx : sep ∉ x) (hB : EndsIn sep B) :
    lastElemStart (R ++ B ++ x ++ [sep]) R.length = (R ++ B).length ∧
      lastIsUp (R ++ B ++ x ++ [sep]) R.length = (x == dd) := by
  have h1 : (R ++ B ++ x ++ [sep]).length > R.length ∧ (R ++ B ++ x ++ [sep]).getLastD 0 = sep :=
    ⟨by simp; omega, by simp⟩
  have h2 : (R ++ B ++ x ++ [sep]).length - 1 = (R ++ B ++ x).length := by simp; omega
  have hs : lastElemStart (R ++ B ++ x ++ [sep]) R.length = (R ++ B).length := by
    unfold lastElemStart
    simp only [h1, and_self, if_true]
    rw [h2, List.take_left' rfl,
      show List.drop R.length (R ++ B ++ x) = B ++ x by simp [List.append_assoc],
      takeWhile_reverse_ne sep B x hx hB]
    simp; omega
  refine ⟨hs, ?_⟩
  unfold lastIsUp
  rw [hs]
  simp only [h1, and_self, if_true]
  rw [h2, List.take_left' rfl, List.drop_left' rfl]

theorem normStep_dot (rl : Nat) (hr : Bool) (out : List Nat) (b : Bool) :
    normStep rl hr out ([dot], b) = out := by
  simp [normStep]

theorem normStep_plain (rl : Nat) (hr : Bool) (out n : List Nat) (b : Bool) (h1 : n ≠ [dot])
    (h2 : n ≠ dd) :
    normStep rl hr out (n, b) = out ++ n ++ (if b then [sep] else []) := by
  have h2' : n ≠ [dot, dot] := h2
  simp [normStep, h1, h2']

theorem normStep_up (rl : Nat) (hr : Bool) (out : List Nat) (b : Bool) :
    normStep rl hr out (dd, b) =
      if out.length > rl ∧ !lastIsUp out rl then out.take (lastElemStart out rl)
      else if !hr ∨ out.length > rl then out ++ dd ++ (if b then [sep] else []) else out := by
  simp [normStep]

theorem normStep_up_empty (root : Bool) (b : Bool) :
    normStep (rootText root).length root (rootText root) (dd, b)
      = if root then rootText root else rootText root ++ dd ++ (if b then [sep] else []) := by
  cases root <;> simp [normStep, rootText]

theorem normStep_up_cons (root : Bool) (acc' : List (List Nat)) (x : List Nat) (hx : sep ∉ x)
    (b : Bool) :
    normStep (rootText root).length root (rootText root ++ flat1 (x :: acc').reverse) (dd, b)
      = if x = dd then rootText root ++ flat1 (x :: acc').reverse ++ dd ++ (if b then [sep] else [])
        else rootText root ++ flat1 acc'.reverse := by
  have e : rootText root ++ flat1 (x :: acc').reverse
      = rootText root ++ flat1 acc'.reverse ++ x ++ [sep] := by
    simp [flat1_snoc, List.append_assoc]
  obtain ⟨hst, hup⟩ :=
    lastElem_snoc (rootText root) (flat1 acc'.reverse) x hx (flat1_ends acc'.reverse)
  have hlen :
      (rootText root ++ flat1 acc'.reverse ++ x ++ [sep]).length > (rootText root).length := by
    simp; omega
  rw [normStep_up, e, hup, hst]
  by_cases hd : x = dd
  · rw [if_neg (by simp [hd]), if_pos (Or.inr hlen), if_pos hd]
  · rw [if_pos ⟨hlen, by simp [hd]⟩, if_neg hd,
      List.append_assoc (rootText root ++ flat1 acc'.reverse), List.take_left' rfl]

theorem normStep_stack (root : Bool) (acc : List (List Nat)) (hacc : ∀ x ∈ acc, OkName x)
    (n : List Nat) (f : Bool) :
    normStep (rootText root).length root (rootText root ++ flat1 acc.reverse) (n, f)
      = if stackStep root acc n = n :: acc
        then rootText root ++ flat1 acc.reverse ++ n ++ (if f then [sep] else [])
        else rootText root ++ flat1 (stackStep root acc n).reverse := by
  fun_cases stackStep root acc n with
  | case1 acc h1 => rw [h1, normStep_dot, if_neg (List.cons_ne_self _ _).symm]
  | case2 _ h2 x acc' h3 =>  -- dot-dot takes the name `x` off
    rw [h2, normStep_up_cons root acc' x (hacc x (by simp)).name.noSep, if_neg h3,
      if_neg fun h => by
        have := congrArg List.length h
        simp at this
        omega]
  | case3 _ h2 x acc' h3 =>
    rw [h2, normStep_up_cons root acc' x (hacc x (by simp)).name.noSep,
      if_pos (Decidable.not_not.1 h3), if_pos rfl]
  | case4 _ h2 hr =>
    rw [h2, if_neg (List.cons_ne_nil _ _).symm, List.reverse_nil, flat1, List.append_nil,
      normStep_up_empty, if_pos hr]
  | case5 _ h2 hr =>
    rw [h2, if_pos rfl, List.reverse_nil, flat1, List.append_nil, normStep_up_empty, if_neg hr]
  | case6 acc h1 h2 => rw [normStep_plain _ _ _ _ _ h1 h2, if_pos rfl]

theorem normStep_followed (root : Bool) (acc : List (List Nat)) (hacc : ∀ x ∈ acc, OkName x)
    (n : List Nat) :
    normStep (rootText root).length root (rootText root ++ flat1 acc.reverse) (n, true)
      = rootText root ++ flat1 (stackStep root acc n).reverse := by
  rw [normStep_stack root acc hacc n true]
  split
  · next h => rw [h, List.reverse_cons, flat1_snoc, if_pos rfl]; simp only [List.append_assoc]
  · rfl

theorem foldl_normStep (root : Bool) (names acc : List (List Nat))
    (hacc : Canon root acc) (hn : ∀ n ∈ names, OkName n) :
    (names.map (fun n => (n, true))).foldl (normStep (rootText root).length root)
        (rootText root ++ flat1 acc.reverse)
      = rootText root ++ flat1 (names.foldl (stackStep root) acc).reverse := by
  fun_induction List.foldl (stackStep root) acc names with
  | case1 => rfl
  | case2 acc n ns ih =>
    rw [List.map_cons, List.foldl_cons, normStep_followed root acc hacc.ok n]
    exact ih (stackStep_canon root acc n hacc (hn n (by simp))) (fun m hm => hn m (by simp [hm]))

/-- The test on the last four bytes with which `normalize` finds a separator after a trailing
dot-dot entry. -/
def stripCond (rootLen : Nat) (out : List Nat) : Prop :=
  out.length ≥ rootLen + 3 ∧ out.getD (out.length - 1) 0 = sep ∧
    out.getD (out.length - 2) 0 = dot ∧ out.getD (out.length - 3) 0 = dot ∧
    (out.length = rootLen + 3 ∨ out.getD (out.length - 4) 0 = sep)

instance (rootLen : Nat) (out : List Nat) : Decidable (stripCond rootLen out) := by
  unfold stripCond; infer_instance

/-- The last lines of `normalize`: that separator is dropped, and an empty result becomes dot. -/
def finish (rootLen : Nat) (out : List Nat) : List Nat :=
  let out := if stripCond rootLen out then out.dropLast else out
  if out = [] then [dot] else out

theorem getD_sub (out : List Nat) (k : Nat) (h : k < out.length) :
    out.getD (out.length - (k + 1)) 0 = out.reverse.getD k 0 := by
  rw [List.getD_eq_getElem?_getD, List.getD_eq_getElem?_getD, List.getElem?_reverse h]
  congr 2; omega

/-- The test read on the reversed text; `rest.length = rl`: what follows the dots is the root. -/
theorem stripCond_iff (rl : Nat) (out : List Nat) :
    stripCond rl out ↔ ∃ rest, out.reverse = sep :: dot :: dot :: rest ∧ rest.length ≥ rl ∧
      (rest.length = rl ∨ rest.headD 0 = sep) := by
  have hl : out.reverse.length = out.length := List.length_reverse
  have key := getD_sub out
  unfold stripCond
  generalize out.reverse = rev at hl key ⊢
  match rev, hl with
  | [], hl | [a], hl | [a, b], hl =>
    simp only [List.length_nil, List.length_cons] at hl
    constructor
    · rintro ⟨h0, -⟩; omega
    · rintro ⟨rest, h, -⟩; cases h
  | a :: b :: c :: rest, hl =>
    simp only [List.length_cons] at hl
    rw [key 0 (by omega), key 1 (by omega), key 2 (by omega)]
    have h4 : out.length ≠ rl + 3 → out.length ≥ rl + 3 →
        out.getD (out.length - 4) 0 = rest.headD 0 := by
      intro h1 h2
      rw [key 3 (by omega)]; cases rest <;> rfl
    constructor
    · rintro ⟨h0, rfl, rfl, rfl, h⟩
      refine ⟨rest, rfl, by omega, ?_⟩
      by_cases hlen : out.length = rl + 3
      · left; omega
      · right
        rw [← h4 hlen h0]
        exact h.resolve_left hlen
    · rintro ⟨rest0, heq, h1, h2⟩
      cases heq
      refine ⟨by omega, rfl, rfl, rfl, ?_⟩
      by_cases hlen : out.length = rl + 3
      · left; exact hlen
      · right
        rw [h4 hlen (by omega)]
        exact h2.resolve_left (by omega)

theorem finish_nosep (rl : Nat) (A t : List Nat) (ht : t ≠ []) (hs : sep ∉ t) :
    finish rl (A ++ t) = A ++ t := by
  have hc : ¬ stripCond rl (A ++ t) := by
    rw [stripCond_iff]
    rintro ⟨rest, h, -⟩
    rw [List.reverse_append] at h
    cases htr : t.reverse with
    | nil => simp at htr; exact ht htr
    | cons c cs =>
      rw [htr] at h
      simp only [List.cons_append, List.cons.injEq] at h
      exact hs (h.1 ▸ List.mem_reverse.1 (htr ▸ List.mem_cons_self ..))
  unfold finish
  simp only [hc, if_false]
  simp [ht]

theorem stripCond_snoc (R B x : List Nat) (hs : sep ∉ x) (hne : x ≠ []) (hB : EndsIn sep B) :
    stripCond R.length (R ++ B ++ x ++ [sep]) ↔ x = dd := by
  have hrev : (R ++ B ++ x ++ [sep]).reverse = sep :: (x.reverse ++ (R ++ B).reverse) := by simp
  have hW : (R ++ B).reverse.length = R.length ∨
      (R.length ≤ (R ++ B).reverse.length ∧ ∃ W', (R ++ B).reverse = sep :: W') := by
    rcases hB with rfl | ⟨B', rfl⟩
    · left; simp
    · right; exact ⟨by simp; omega, by simp⟩
  generalize (R ++ B).reverse = W at hrev hW
  rw [stripCond_iff, hrev]
  constructor
  · rintro ⟨rest, h, h1, h2⟩
    have hs' : sep ∉ x.reverse := by simpa using hs
    have hxr : x = x.reverse.reverse := by simp
    match hx : x.reverse, hs' with
    | [], _ => simp at hx; exact absurd hx hne
    | [a], _ =>
      -- one byte: before it the text `R ++ B` ends, in a separator or not at all, never in a dot
      rw [hx] at h
      simp only [List.cons_append, List.nil_append, List.cons.injEq, true_and] at h
      rcases hW with hW | ⟨_, W', hW⟩
      · rw [h.2] at hW
        simp at hW
        omega
      · rw [hW] at h; exact absurd (List.cons.inj h.2).1 (by decide)
    | [a, b], _ =>
      -- two bytes: they are the two dots
      rw [hx] at h hxr
      simp only [List.cons_append, List.nil_append, List.cons.injEq, true_and] at h
      rw [hxr, h.1, h.2.1]; rfl
    | a :: b :: c :: xr, hs' =>
      -- three or more: the fourth byte from the end lies in `x`, so it is no separator, and the
      -- text is too long to end three bytes behind the root
      rw [hx] at h
      simp only [List.cons_append, List.cons.injEq, true_and] at h
      obtain ⟨-, -, rfl⟩ := h
      rcases h2 with h2 | h2
      · simp at h2; rcases hW with hW | ⟨hW, -⟩ <;> omega
      · simp at h2 hs'; exact absurd h2.symm hs'.2.2.1
  · rintro rfl
    refine ⟨W, rfl, by rcases hW with h | ⟨h, -⟩ <;> omega, ?_⟩
    rcases hW with h | ⟨-, W', h⟩
    · exact Or.inl h
    · right
      rw [h]
      rfl

theorem finish_stack (root : Bool) (st : List (List Nat)) (hst : ∀ x ∈ st, OkName x) :
    finish (rootText root).length (rootText root ++ flat1 st.reverse) = textR root st true := by
  cases st with
  | nil => cases root <;> decide
  | cons x st' =>
    have hx := hst x (by simp)
    have e : rootText root ++ flat1 (x :: st').reverse
        = rootText root ++ flat1 st'.reverse ++ x ++ [sep] := by
      simp [flat1_snoc, List.append_assoc]
    have hiff := stripCond_snoc (rootText root) (flat1 st'.reverse) x hx.name.noSep
      hx.name.ne_nil (flat1_ends st'.reverse)
    unfold finish
    rw [e]
    by_cases hd : x = dd
    · simp only [hiff.2 hd, if_true, textR]
      simp [hd, parts]
    · simp only [mt hiff.1 hd, if_false, textR]
      simp [hd, parts, flat1_snoc]

theorem finish_normStep_last (root : Bool) (st0 : List (List Nat)) (hc : Canon root st0)
    (n : List Nat) (hn : OkName n) :
    finish (rootText root).length
        (normStep (rootText root).length root (rootText root ++ flat1 st0.reverse) (n, false))
      = textR root (stackStep root st0 n) (decide (n = [dot] ∨ n = dd)) := by
  have hst := stackStep_canon root st0 n hc hn
  rw [normStep_stack root st0 hc.ok n false]
  split
  · next h =>
    -- `n` stays on top, so it is no dot: the text ends in it, and it gets no separator
    rw [h] at hst ⊢
    have h1 := (hst.names n (by simp)).2
    rw [if_neg (by decide), List.append_nil, finish_nosep _ _ n hn.name.ne_nil hn.name.noSep]
    by_cases h2 : n = dd <;> simp [textR, parts, h1, h2]
  · next h =>
    have hflag : n = [dot] ∨ n = dd := by
      apply Classical.byContradiction
      intro hc
      exact h (by simp [stackStep, show n ≠ [dot] from fun h => hc (Or.inl h),
        show n ≠ [dot, dot] from fun h => hc (Or.inr h)])
    rw [finish_stack root _ hst.ok, decide_eq_true hflag]

theorem normalize_eq (s : List Nat) (hs : s ≠ []) (R : List Nat)
    (hR : slice s (rootPathRange s) = R) :
    normalize s = finish R.length ((relElems s (s.length + 1) (rootPathRange s).2).foldl
      (normStep R.length (decide (R.length > 0 ∧ R.getLastD 0 = sep))) R) := by
  unfold normalize
  rw [if_neg hs]
  dsimp only
  rw [map_preferred (slice s (rootPathRange s)), hR]
  rfl

theorem normalize_decomp (k : Nat) (es : List (List Nat × Nat)) (tail : List Nat)
    (hes : ∀ e ∈ es, OkName e.1) (ht : tail = [] ∨ OkName tail)
    (hne : List.replicate k sep ++ flat es ++ tail ≠ []) :
    normalize (List.replicate k sep ++ flat es ++ tail)
      = textR (decide (0 < k)) (stackOf (decide (0 < k)) (es.map (·.1)) tail)
          (decide (tail = [] ∨ tail = [dot] ∨ tail = dd)) := by
  obtain ⟨hroot, hro⟩ := rootPathRange_decomp k es tail (names_ok hes) (tail_ok ht)
  rw [normalize_eq _ hne (rootText (decide (0 < k))) (by rw [hroot]; exact hro), hroot]
  generalize hrt : decide (0 < k) = root
  rw [show decide ((rootText root).length > 0 ∧ (rootText root).getLastD 0 = sep) = root by
    cases root <;> decide]
  rw [relElems_decomp k es tail (names_ok hes) (tail_ok ht) (zero_not_mem_decomp k es tail hes ht),
    List.foldl_append]
  have hnames : ∀ n ∈ es.map (·.1), OkName n := List.forall_mem_map.2 hes
  have hfold := foldl_normStep root (es.map (·.1)) [] (Canon.nil root) hnames
  simp only [List.reverse_nil, flat1, List.append_nil] at hfold
  rw [hfold]
  have hst0 := foldl_stackStep_canon root (es.map (·.1)) [] (Canon.nil root) hnames
  unfold stackOf
  rw [List.foldl_append]
  generalize (es.map (·.1)).foldl (stackStep root) [] = st0 at hst0 ⊢
  by_cases htl : tail = []
  · subst htl
    simp only [if_true, List.foldl_nil]
    rw [finish_stack root st0 hst0.ok]
    simp
  · simp only [htl, if_false, List.foldl_cons, List.foldl_nil, false_or]
    exact finish_normStep_last root st0 hst0 tail (ht.resolve_left htl)

theorem normal_decomp (k : Nat) (es : List (List Nat × Nat)) (tail : List Nat)
    (hes : ∀ e ∈ es, OkName e.1) (ht : tail = [] ∨ OkName tail)
    (hne : List.replicate k sep ++ flat es ++ tail ≠ []) :
    normal (List.replicate k sep ++ flat es ++ tail)
      = pvR (decide (0 < k)) (stackOf (decide (0 < k)) (es.map (·.1)) tail)
          (decide (tail = [] ∨ tail = [dot] ∨ tail = dd)) := by
  unfold normal
  rw [if_neg hne, parse_decomp k es tail (names_ok hes) (tail_ok ht)]
  by_cases hrest : es = [] ∧ tail = []
  · obtain ⟨rfl, rfl⟩ := hrest
    have hk : 0 < k := by
      cases k with
      | zero => simp [flat] at hne
      | succ k => omega
    simp [hk, stackOf, pvR, normStack]
  · rw [if_neg hrest]
    dsimp only
    have hnames : ∀ n ∈ es.map (·.1), OkName n := List.forall_mem_map.2 hes
    have hfilt : (es.map (·.1) ++ [tail]).filter (· ≠ [])
        = es.map (·.1) ++ (if tail = [] then [] else [tail]) := by
      rw [List.filter_append]
      congr 1
      · rw [List.filter_eq_self]
        intro n hn
        simpa using (hnames n hn).name.ne_nil
      · by_cases h : tail = [] <;> simp [h]
    -- the trailing-separator condition of `PathSpec.normal`, said of the last name of the
    -- decomposition
    have htrail (names : List (List Nat)) : (((names ++ [tail]).getLast? == some []) = true ∨
        (names ++ if tail = [] then [] else [tail]).getLast? = some [dot] ∨
        (names ++ if tail = [] then [] else [tail]).getLast? = some dd)
          ↔ (tail = [] ∨ tail = [dot] ∨ tail = dd) := by
      by_cases h : tail = [] <;> simp [h]
    rw [hfilt, normStack_eq]
    unfold pvR stackOf
    simp only [List.reverse_eq_nil_iff, List.getLast?_reverse, htrail, decide_eq_true_eq, ne_eq]

theorem normalize_canon (s : List Nat) (h0 : 0 ∉ s) (hs : s ≠ []) :
    ∃ root st b, Canon root st ∧ normalize s = textR root st b ∧ normal s = pvR root st b := by
  obtain ⟨k, es, tail, rfl, hes, ht⟩ := exists_decomp_ok s h0
  exact ⟨_, _, _, stackOf_canon _ es tail hes ht, normalize_decomp k es tail hes ht hs,
    normal_decomp k es tail hes ht hs⟩

theorem parse_textR (root : Bool) (st : List (List Nat)) (b : Bool) (hst : ∀ x ∈ st, OkName x) :
    parse (textR root st b) = pvR root st b := by
  obtain ⟨hN, ht⟩ := parts_ok root st b hst
  rw [textR, flat1_eq_flat,
    parse_rootText_decomp _ _ _ (names_ok (by simpa using hN)) (tail_ok ht), map_fst_zero]
  cases st with
  | nil => cases root <;> rfl
  | cons x st' =>
    by_cases hb : b = true ∧ x ≠ dd <;>
      simp [parts, pvR_cons, hb, (hst x (by simp)).name.ne_nil]

theorem unparse_fold (N : List (List Nat)) (t : List Nat) (b : Bool) (acc : List Nat) :
    ((N ++ [t]).foldl (fun (acc : Bool × List Nat) n =>
        if acc.1 then (false, acc.2 ++ n) else (false, acc.2 ++ [sep] ++ n)) (b, acc)).2
      = acc ++ (if b then [] else [sep]) ++ flat1 N ++ t := by
  induction N generalizing b acc with
  | nil => cases b <;> simp [flat1]
  | cons n N ih =>
    rw [List.cons_append, List.foldl_cons]
    cases b
    · rw [if_neg (by simp), ih]; simp [flat1]
    · rw [if_pos rfl, ih]; simp [flat1]

theorem unparse_snoc (root : Bool) (N : List (List Nat)) (t : List Nat) :
    unparse ⟨root, N ++ [t]⟩ = rootText root ++ flat1 N ++ t := by
  unfold unparse
  rw [unparse_fold]
  simp [rootText]

theorem unparse_pvR (root : Bool) (st : List (List Nat)) (b : Bool) :
    unparse (pvR root st b) = textR root st b := by
  unfold textR
  fun_cases parts root st b with
  | case1 => cases root <;> rfl
  | case2 x st' hb => rw [pvR_cons, if_pos hb, unparse_snoc, List.append_nil]
  | case3 x st' hb =>
    rw [pvR_cons, if_neg hb, List.append_nil, List.reverse_cons, unparse_snoc]

theorem normalize_textR (root : Bool) (st : List (List Nat)) (b : Bool) (hc : Canon root st) :
    normalize (textR root st b) = textR root st b := by
  obtain ⟨hN, ht⟩ := parts_ok root st b hc.ok
  have h := normalize_decomp root.toNat ((parts root st b).1.map (·, 0)) (parts root st b).2
    (by simpa using hN) ht
  rw [← rootText_eq, ← flat1_eq_flat, map_fst_zero,
    show decide (0 < root.toNat) = root by cases root <;> rfl, stackOf_parts root st b hc] at h
  rw [textR, h (textR_ne_nil root st b hc), textR, parts_wish_of_last root st b hc]

/-- `IsNormal`, which speaks of indices, from list properties of the names.  `hE`: `E` is nothing,
or the one empty element of a trailing separator, which only a last name other than dot-dot may
get. -/
theorem isNormal_of (root : Bool) (N E : List (List Nat))
    (h1 : ∀ n ∈ N, n ≠ [] ∧ n ≠ [dot]) (hroot : root = true → dd ∉ N)
    (hpw : N.Pairwise (fun a b => b = dd → a = dd))
    (hE : E = [] ∨ (E = [[]] ∧ ∃ N' x, N = N' ++ [x] ∧ x ≠ dd)) : IsNormal ⟨root, N ++ E⟩ := by
  have hEn : ∀ e ∈ E, e = [] := by
    rcases hE with rfl | ⟨rfl, -⟩ <;> simp
  have hddN : ∀ i, (N ++ E)[i]? = some dd → i < N.length := by
    intro i hi
    by_cases h : i < N.length
    · exact h
    · rw [List.getElem?_append_right (by omega)] at hi
      exact absurd (hEn _ (List.mem_of_getElem? hi)) (by decide)
  refine ⟨Or.inr ?_, ?_, ?_, ?_⟩
  · intro hm
    rcases List.mem_append.1 hm with h | h
    · exact (h1 _ h).2 rfl
    · exact absurd (hEn _ h) (by decide)
  · intro i hi
    have hlt := hddN _ hi
    rw [List.getElem?_append_left hlt, List.getElem?_eq_getElem hlt] at hi
    have hi' : N[i + 1] = dd := Option.some.inj hi
    have := (List.pairwise_iff_getElem.1 hpw) i (i + 1) (by omega) hlt (by omega) hi'
    rw [List.getElem?_append_left (by omega), List.getElem?_eq_getElem (by omega), this]
  · intro hr hh
    change (N ++ E).head? = some dd at hh
    have h0 : (N ++ E)[0]? = some dd := by rw [← hh]; cases (N ++ E) <;> rfl
    have hlt := hddN _ h0
    rw [List.getElem?_append_left hlt] at h0
    exact hroot hr (List.mem_of_getElem? h0)
  · intro i hi
    change (N ++ E)[i]? = some [] at hi
    have hge : N.length ≤ i := by
      apply Nat.le_of_not_lt
      intro h
      rw [List.getElem?_append_left h] at hi
      exact (h1 _ (List.mem_of_getElem? hi)).1 rfl
    rw [List.getElem?_append_right hge] at hi
    rcases hE with rfl | ⟨rfl, N', x, rfl, hx⟩
    · simp at hi
    · have hi0 : i - (N' ++ [x]).length = 0 := by
        cases h : i - (N' ++ [x]).length with
        | zero => rfl
        | succ m => rw [h] at hi; simp at hi
      have hieq : i = N'.length + 1 := by simp at hge hi0; omega
      subst hieq
      refine ⟨by simp, by omega, ?_⟩
      simp
      exact hx

theorem isNormal_pvR (root : Bool) (st : List (List Nat)) (b : Bool) (hc : Canon root st) :
    IsNormal (pvR root st b) := by
  cases st with
  | nil =>
    cases root with
    | true => exact ⟨Or.inr (by simp [pvR]), by simp [pvR], by simp [pvR], by simp [pvR]⟩
    | false =>
      refine ⟨Or.inl rfl, ?_, by simp [pvR], ?_⟩
      · intro i hi; simp [pvR] at hi
      · intro i hi
        simp only [pvR] at hi
        cases i with
        | zero => simp at hi
        | succ j => simp at hi
  | cons x st' =>
    rw [pvR_cons]
    apply isNormal_of
    · intro n hn
      have := hc.names n (List.mem_reverse.1 hn)
      exact ⟨this.1.name.ne_nil, this.2⟩
    · exact fun hr hm => hc.underRoot hr (List.mem_reverse.1 hm)
    · rw [List.pairwise_reverse]; exact hc.upsBelow
    · by_cases hb : b = true ∧ x ≠ dd
      · right
        rw [if_pos hb]
        exact ⟨rfl, st'.reverse, x, by simp, hb.2⟩
      · left; rw [if_neg hb]

/-- Clause 2 of `IsNormal` (before a dot-dot stands a dot-dot) in list form. -/
theorem pairwise_of_chain {α} (d : α) (l : List α)
    (h : ∀ i : Nat, l[i + 1]? = some d → l[i]? = some d) :
    l.Pairwise (fun a b => b = d → a = d) := by
  induction l with
  | nil => exact .nil
  | cons a l ih =>
    have ihl := ih fun i hi => h (i + 1) hi
    refine List.pairwise_cons.2 ⟨fun b hb hbd => ?_, ihl⟩
    cases l with
    | nil => cases hb
    | cons c l' =>
      have hc : c = d := by
        rcases List.mem_cons.1 hb with rfl | hb'
        · exact hbd
        · exact (List.pairwise_cons.1 ihl).1 b hb' hbd
      exact Option.some.inj (h 0 (by rw [hc]; rfl))

/-- `names = M ++ E`: `M` the names proper, `E` the empty element of a trailing separator if there
is one (as in `isNormal_of`). -/
theorem canon_of_isNormal (root : Bool) (names : List (List Nat))
    (h1 : [dot] ∉ names)
    (h2 : ∀ i : Nat, names[i + 1]? = some dd → names[i]? = some dd)
    (h3 : root = true → names.head? ≠ some dd)
    (hne : ∀ n ∈ names, 0 ∉ n ∧ sep ∉ n)
    (M : List (List Nat)) (E : List (List Nat)) (hM : names = M ++ E) (hMne : ∀ n ∈ M, n ≠ []) :
    Canon root M.reverse := by
  have hpw := pairwise_of_chain dd names h2
  have hsub : ∀ n ∈ M, n ∈ names := fun n hn => by rw [hM]; simp [hn]
  refine ⟨?_, ?_, ?_⟩
  · intro x hx
    have hx' := List.mem_reverse.1 hx
    have := hne x (hsub x hx')
    exact ⟨⟨⟨hMne x hx', this.2⟩, this.1⟩, fun h => h1 (h ▸ hsub x hx')⟩
  · intro hr hm
    have hm' := hsub _ (List.mem_reverse.1 hm)
    cases names with
    | nil => cases hm'
    | cons a rest =>
      refine h3 hr (congrArg some ?_)
      rcases List.mem_cons.1 hm' with h | h
      · exact h.symm
      · exact (List.pairwise_cons.1 hpw).1 dd h rfl
  · rw [List.pairwise_reverse, hM] at *
    exact (List.pairwise_append.1 hpw).1

/-- The converse of `isNormal_pvR`. -/
theorem pvR_of_isNormal (root : Bool) (names : List (List Nat)) (hn : IsNormal ⟨root, names⟩)
    (hne : ∀ n ∈ names, 0 ∉ n ∧ sep ∉ n) (hnonempty : root = true ∨ names ≠ []) :
    ∃ st b, Canon root st ∧ (⟨root, names⟩ : P) = pvR root st b := by
  obtain ⟨h1, h2, h3, h4⟩ := hn
  rcases h1 with h1 | h1
  · cases h1; exact ⟨[], true, Canon.nil _, rfl⟩
  · rcases List.eq_nil_or_concat names with hnil | ⟨N, t, hN⟩
    · have hr : root = true := by simpa [hnil] using hnonempty
      exact ⟨[], true, Canon.nil _, by rw [hnil, hr]; rfl⟩
    · rw [List.concat_eq_append] at hN
      have hNne : ∀ n ∈ N, n ≠ [] := by
        intro n hn hnil
        subst hnil
        obtain ⟨i, hi, hieq⟩ := List.getElem_of_mem hn
        have : names[i]? = some [] := by
          rw [hN, List.getElem?_append_left hi, List.getElem?_eq_getElem hi, hieq]
        have := (h4 i this).1
        rw [hN] at this
        simp at this
        omega
      by_cases ht : t = []
      · -- a trailing separator: the name before it is no dot-dot
        subst ht
        have hlast : names[N.length]? = some [] := by rw [hN]; simp
        obtain ⟨-, hpos, hprev⟩ := h4 _ hlast
        rcases List.eq_nil_or_concat N with hnil | ⟨N', x, hN'⟩
        · subst hnil; simp at hpos
        · rw [List.concat_eq_append] at hN'
          have hx : x ≠ dd := by
            intro hx
            apply hprev
            rw [hN, hN', hx]
            simp
          refine ⟨N.reverse, true, canon_of_isNormal root names h1 h2 h3 hne N [[]] hN hNne, ?_⟩
          rw [hN, hN', List.reverse_append, List.reverse_singleton, List.singleton_append, pvR_cons]
          simp [hx]
      · have hall : ∀ n ∈ N ++ [t], n ≠ [] := by
          intro n hn
          rcases List.mem_append.1 hn with h | h
          · exact hNne n h
          · simp at h
            subst h
            exact ht
        refine ⟨(N ++ [t]).reverse, false,
          canon_of_isNormal root names h1 h2 h3 hne (N ++ [t]) [] (by simp [hN]) hall, ?_⟩
        rw [hN, List.reverse_append, List.reverse_singleton, List.singleton_append, pvR_cons]
        simp

end Zix.Path.Norm

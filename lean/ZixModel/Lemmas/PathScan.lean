import ZixModel.Model.Path
import ZixModel.Spec.Cpp17Path
/-! What the path lemma files share.  Every string is `'/'^k ++ flat es ++ tail` (`exists_decomp`:
leading separators, names each followed by a run of separators, a last name); on that form the
model's index scans, as two generic loops, and the C++17 splitter are `takeWhile`/`dropWhile`
without fuel. -/
namespace Zix.Path.Norm

/-- The text of the root directory, if there is one.  The normal-form texts of `PathNormal` begin
with it, whence the namespace; it stands here because the lemmas on the root of a decomposed string
(`slice_lastSep`, `rootPathRange_decomp`, `parse_rootText_decomp`) are stated with it. -/
def rootText (root : Bool) : List Nat := if root then [sep] else []

theorem rootText_length (root : Bool) : (rootText root).length = if root then 1 else 0 := by
  cases root <;> rfl

end Zix.Path.Norm

namespace Zix.Path.Scan
open Zix.Path Zix.PathSpec Zix.Path.Norm

theorem isSep_iff (c : Nat) : isSep c = true ↔ c = sep := by
  unfold isSep; simp

theorem isSep_sep : isSep sep = true := by decide

theorem isSep_zero : isSep 0 = false := by decide

/-- `'/'` is the only separator, so writing the preferred one for each separator changes nothing. -/
theorem map_preferred (s : List Nat) : s.map (fun c => if isSep c then sep else c) = s := by
  refine (List.map_congr_left fun c _ => ?_).trans (List.map_id s)
  by_cases h : isSep c = true
  · rw [if_pos h, (isSep_iff c).1 h]; rfl
  · rw [if_neg h]; rfl

theorem preferred_eq (s : List Nat) : preferred s = s := map_preferred s

theorem at'_lt {s : List Nat} {i : Nat} (h : i < s.length) : at' s i = s[i] := by
  unfold at'; simp [List.getD_eq_getElem?_getD, h]

theorem at'_ge {s : List Nat} {i : Nat} (h : s.length ≤ i) : at' s i = 0 := by
  unfold at'; simp [List.getD_eq_getElem?_getD, h]

theorem at'_append_left {x y : List Nat} {i : Nat} (h : i < x.length) :
    at' (x ++ y) i = at' x i := by
  unfold at'; simp [List.getD_eq_getElem?_getD, List.getElem?_append_left h]

theorem at'_append_right {x y : List Nat} {i : Nat} (h : x.length ≤ i) :
    at' (x ++ y) i = at' y (i - x.length) := by
  unfold at'; simp [List.getD_eq_getElem?_getD, List.getElem?_append_right h]

theorem at'_replicate {n c i : Nat} (h : i < n) : at' (List.replicate n c) i = c := by
  unfold at'; simp [List.getD_eq_getElem?_getD, h]

theorem at'_drop (s : List Nat) (n i : Nat) : at' (s.drop n) i = at' s (n + i) := by
  unfold at'; simp [List.getD_eq_getElem?_getD]

theorem at'_mem {s : List Nat} {i : Nat} (h : i < s.length) : at' s i ∈ s := by
  rw [at'_lt h]; exact List.getElem_mem h

theorem at'_ne_of_not_mem {l : List Nat} {c : Nat} (hc : c ≠ 0) (h : c ∉ l) (i : Nat) :
    at' l i ≠ c := by
  by_cases hi : i < l.length
  · exact fun e => h (e ▸ at'_mem hi)
  · rw [at'_ge (Nat.le_of_not_lt hi)]; exact fun e => hc e.symm

theorem at'_eq_zero_iff {s : List Nat} (h0 : 0 ∉ s) (i : Nat) : at' s i = 0 ↔ s.length ≤ i :=
  ⟨fun h => Nat.le_of_not_lt fun hlt => h0 (h ▸ at'_mem hlt), at'_ge⟩

theorem at'_length_append (pre post : List Nat) : at' (pre ++ post) pre.length = post.headD 0 := by
  cases post <;> simp [at']

theorem lt_of_isSep_at' {s : List Nat} {i : Nat} (h : isSep (at' s i) = true) : i < s.length := by
  apply Nat.lt_of_not_le
  intro hle
  rw [at'_ge hle] at h
  exact absurd h (by decide)

theorem slice_length (s : List Nat) (a b : Nat) (h : b ≤ s.length) :
    (slice s (a, b)).length = b - a := by
  unfold slice
  simp
  omega

theorem slice_append (s : List Nat) (a b c : Nat) (h1 : a ≤ b) (h2 : b ≤ c) :
    slice s (a, c) = slice s (a, b) ++ slice s (b, c) := by
  unfold slice
  have e1 : c - a = (b - a) + (c - b) := by omega
  rw [e1, List.take_add, List.drop_drop]
  have e2 : a + (b - a) = b := by omega
  rw [e2]

theorem slice_empty (s : List Nat) (a : Nat) : slice s (a, a) = [] := by
  unfold slice; simp

theorem slice_to_end (s : List Nat) (a : Nat) : slice s (a, s.length) = s.drop a := by
  unfold slice; exact List.take_of_length_le (by simp)

theorem slice_ne_nil_iff (s : List Nat) (a b : Nat) (h : b ≤ s.length) :
    slice s (a, b) ≠ [] ↔ a < b := by
  rw [← List.length_pos_iff, slice_length s a b h]; omega

/-- A scan back from the end for the last `c` stops on reaching such a text. -/
def EndsIn (c : Nat) (A : List Nat) : Prop := A = [] ∨ ∃ A', A = A' ++ [c]

theorem takeWhile_reverse_ne (c : Nat) (A x : List Nat) (hx : c ∉ x) (hA : EndsIn c A) :
    (A ++ x).reverse.takeWhile (· ≠ c) = x.reverse := by
  have hall : ∀ a ∈ x.reverse, decide (a ≠ c) = true :=
    fun a ha => decide_eq_true fun h => hx (h ▸ List.mem_reverse.1 ha)
  rw [List.reverse_append, List.takeWhile_append_of_pos hall]
  rcases hA with rfl | ⟨A', rfl⟩ <;> simp

/-- The five backward scans of `src/path.c` are this one loop, with floor `p` and test `P`. -/
def scanDown (P : Nat → Prop) [DecidablePred P] (p : Nat) : Nat → Nat
  | 0 => 0
  | l + 1 => if l + 1 > p ∧ P (l + 1) then scanDown P p l else l + 1

section
variable (P : Nat → Prop) [DecidablePred P] (p : Nat)

theorem scanDown_le (l : Nat) : scanDown P p l ≤ l := by
  fun_induction scanDown P p l <;> omega

theorem scanDown_ge (l : Nat) (h : p ≤ l) : p ≤ scanDown P p l := by
  fun_induction scanDown P p l <;> omega

theorem scanDown_eq (g l : Nat) (hp : p ≤ g) (hg : g ≤ l) (hall : ∀ i, g < i → i ≤ l → P i)
    (hstop : g = p ∨ ¬ P g) : scanDown P p l = g := by
  fun_induction scanDown P p l with
  | case1 => exact (Nat.le_zero.1 hg).symm
  | case2 l h ih =>
    have : g ≠ l + 1 := fun e => hstop.elim (by omega) (fun hn => hn (e ▸ h.2))
    exact ih (by omega) (fun i h1 h2 => hall i h1 (by omega))
  | case3 l h =>
    exact (Nat.le_antisymm hg
      (Nat.le_of_not_lt fun hlt => h ⟨by omega, hall _ hlt (Nat.le_refl _)⟩)).symm
end

theorem rewindSeps_eq_scan (s : List Nat) (p l : Nat) :
    rewindSeps s p l = scanDown (fun i => isSep (at' s (i - 1)) = true) p l := by
  induction l with
  | zero => rfl
  | succ l ih => rw [rewindSeps, scanDown, ih]; rfl

theorem rewindName_eq_scan (s : List Nat) (p l : Nat) :
    rewindName s p l = scanDown (fun i => (!isSep (at' s i)) = true) p l := by
  induction l with
  | zero => rfl
  | succ l ih => rw [rewindName, scanDown, ih]

theorem dropSeps_eq_scan (s : List Nat) (p l : Nat) :
    dropSeps s p l = scanDown (fun i => isSep (at' s i) = true) p l := by
  induction l with
  | zero => rfl
  | succ l ih => rw [dropSeps, scanDown, ih]

theorem rewindToSep_eq_scan (s : List Nat) (b f : Nat) :
    rewindToSep s b f = scanDown (fun i => (!isSep (at' s (i - 1))) = true) b f := by
  induction f with
  | zero => rfl
  | succ f ih => rw [rewindToSep, scanDown, ih]; rfl

theorem rewindToDot_eq_scan (s : List Nat) (b e : Nat) :
    rewindToDot s b e = scanDown (fun i => at' s i ≠ dot) b e := by
  induction e with
  | zero => rfl
  | succ e ih => rw [rewindToDot, scanDown, ih]

/-- The two forward scans of the component iterator are this one loop. -/
def scanUp (P : Nat → Prop) [DecidablePred P] : (fuel i : Nat) → Nat
  | 0, i => i
  | fuel + 1, i => if P i then scanUp P fuel (i + 1) else i

theorem skipSeps_eq_scan (s : List Nat) (fuel i : Nat) :
    skipSeps s fuel i = scanUp (fun i => isSep (at' s i) = true) fuel i := by
  induction fuel generalizing i with
  | zero => rfl
  | succ fuel ih => rw [skipSeps, scanUp, ih]

theorem skipName_eq_scan (s : List Nat) (fuel i : Nat) :
    skipName s fuel i = scanUp (fun i => at' s i ≠ 0 ∧ (!isSep (at' s i)) = true) fuel i := by
  induction fuel generalizing i with
  | zero => rfl
  | succ fuel ih => rw [skipName, scanUp, ih]

def notSep (c : Nat) : Bool := !isSep c

theorem drop_takeWhile_length {α} (p : α → Bool) (l : List α) :
    l.drop (l.takeWhile p).length = l.dropWhile p :=
  (congrArg _ List.takeWhile_append_dropWhile).symm.trans (List.drop_left' rfl)

theorem drop_add_takeWhile_length {α} (p : α → Bool) (l : List α) (e : Nat) :
    l.drop (e + ((l.drop e).takeWhile p).length) = (l.drop e).dropWhile p := by
  rw [← List.drop_drop, drop_takeWhile_length]

theorem take_takeWhile_length {α} (p : α → Bool) (l : List α) :
    l.take (l.takeWhile p).length = l.takeWhile p :=
  (List.prefix_iff_eq_take.1 (List.takeWhile_prefix p)).symm

theorem length_dropWhile_le {α} (p : α → Bool) (l : List α) : (l.dropWhile p).length ≤ l.length :=
  (List.dropWhile_sublist p).length_le

theorem length_takeWhile_add_dropWhile {α} (p : α → Bool) (l : List α) :
    (l.takeWhile p).length + (l.dropWhile p).length = l.length := by
  rw [← List.length_append, List.takeWhile_append_dropWhile]

theorem mem_takeWhile {α} {p : α → Bool} {l : List α} {a : α} (h : a ∈ l.takeWhile p) :
    p a = true :=
  List.all_eq_true.1 List.all_takeWhile a h

theorem dropWhile_nil_all {α} (p : α → Bool) (l : List α) (h : l.dropWhile p = []) :
    ∀ c ∈ l, p c = true := by
  have := List.any_dropWhile (p := p) (l := l)
  rw [h] at this
  simpa using this

theorem takeWhile_append_stop {α} {p : α → Bool} (a b : List α) (ha : ∀ c ∈ a, p c = true)
    (hb : ∀ c, b.head? = some c → p c = false) :
    (a ++ b).takeWhile p = a ∧ (a ++ b).dropWhile p = b := by
  rw [List.takeWhile_append_of_pos ha, List.dropWhile_append_of_pos ha]
  cases b with
  | nil => simp
  | cons c t => simp [hb c rfl]

theorem at'_eq_headD (s : List Nat) (i : Nat) : at' s i = (s.drop i).headD 0 := by
  unfold at'
  simp [List.headD_eq_head?_getD, List.head?_drop, List.getD_eq_getElem?_getD]

/-- `hq`: past the end of the string the scan reads the terminating 0. -/
theorem scanUp_eq (P : Nat → Prop) [DecidablePred P] (q : Nat → Bool) (s : List Nat)
    (hP : ∀ i, P i ↔ q (at' s i) = true) (hq : q 0 = false) : ∀ fuel i, s.length - i ≤ fuel →
    scanUp P fuel i = i + ((s.drop i).takeWhile q).length := by
  intro fuel i h
  fun_induction scanUp P fuel i with
  | case1 i =>  -- fuel spent: the text too
    have : s.drop i = [] := by rw [List.drop_eq_nil_iff]; omega
    rw [this]; rfl
  | case2 fuel i hi ih =>
    rw [hP, at'_eq_headD] at hi
    cases hd : s.drop i with
    | nil => rw [hd, List.headD_nil, hq] at hi; exact absurd hi (by decide)
    | cons c t =>
      rw [hd, List.headD_cons] at hi
      rw [List.takeWhile_cons, if_pos hi, ih (by omega), ← List.drop_drop, hd, List.drop_succ_cons,
        List.drop_zero, List.length_cons]
      omega
  | case3 fuel i hi =>
    rw [hP, at'_eq_headD] at hi
    cases hd : s.drop i with
    | nil => rfl
    | cons c t =>
      rw [hd, List.headD_cons] at hi
      rw [List.takeWhile_cons, if_neg hi]
      rfl

/-- The fuel the model gives its forward scans is enough. -/
theorem fuel_ok (s : List Nat) (i : Nat) : s.length - i ≤ s.length + 1 :=
  Nat.le_trans (Nat.sub_le ..) (Nat.le_succ _)

theorem skipSeps_eq (s : List Nat) (i : Nat) :
    skipSeps s (s.length + 1) i = i + ((s.drop i).takeWhile isSep).length := by
  rw [skipSeps_eq_scan]
  exact scanUp_eq _ isSep s (fun _ => Iff.rfl) isSep_zero _ i (fuel_ok s i)

/-- The byte test of `skipName`; in a NUL-free string it is `notSep` (`skipName_eq`). -/
def nameByte (c : Nat) : Bool := c != 0 && !isSep c

theorem skipName_eq_nameByte (s : List Nat) (i : Nat) :
    skipName s (s.length + 1) i = i + ((s.drop i).takeWhile nameByte).length := by
  rw [skipName_eq_scan]
  exact scanUp_eq _ nameByte s (fun _ => by simp [nameByte]) rfl _ i (fuel_ok s i)

theorem skipName_eq (s : List Nat) (h0 : 0 ∉ s) (i : Nat) :
    skipName s (s.length + 1) i = i + ((s.drop i).takeWhile notSep).length := by
  rw [skipName_eq_nameByte s i]
  have : ∀ l : List Nat, 0 ∉ l → l.takeWhile nameByte = l.takeWhile notSep := by
    intro l hl
    induction l with
    | nil => rfl
    | cons c t ih =>
      have hc : nameByte c = notSep c := by
        have : c ≠ 0 := fun h => hl (h ▸ List.mem_cons_self ..)
        simp [nameByte, notSep, this]
      rw [List.takeWhile_cons, List.takeWhile_cons, hc, ih fun h => hl (List.mem_cons_of_mem _ h)]
  rw [this _ fun h => h0 (List.mem_of_mem_drop h)]

/-- `splitNames` without its test for the empty text: the names of a text with no leading separator,
at least one (`spl [] = [[]]`). -/
def spl (r : List Nat) : List (List Nat) := splitAux (r.length + 1) r []

/-- The C++17 filename elements that follow a position whose remaining text is `suf`. -/
def elemsFrom (suf : List Nat) : List (List Nat) :=
  if suf = [] then [] else spl (suf.dropWhile isSep)

/-- `n` bounds the text, so that the splitter's call on the shorter text and the `spl` of that text,
whose fuels differ, are both within the induction hypothesis. -/
theorem splitAux_eq : ∀ n r fuel cur, r.length ≤ n → r.length ≤ fuel →
    splitAux fuel r cur =
      (cur.reverse ++ r.takeWhile notSep) :: elemsFrom (r.dropWhile notSep) := by
  intro n
  induction n with
  | zero =>
    intro r fuel cur hr _
    rw [List.eq_nil_of_length_eq_zero (Nat.le_zero.1 hr)]
    cases fuel <;> simp [splitAux, elemsFrom]
  | succ n ih =>
    intro r fuel cur hr h
    fun_cases splitAux fuel r cur with
    | case1 r cur =>  -- no fuel, so no text
      rw [List.eq_nil_of_length_eq_zero (Nat.le_zero.1 h)]
      simp [elemsFrom]
    | case2 fuel cur => simp [elemsFrom]
    | case3 fuel c rest cur hc =>
      simp only [List.length_cons] at h hr
      have := length_dropWhile_le isSep rest
      simp only [hc, if_true, List.takeWhile_cons, List.dropWhile_cons, notSep, Bool.not_true,
        Bool.false_eq_true, if_false, List.append_nil, elemsFrom, List.cons_ne_nil, spl]
      rw [ih _ fuel _ (by omega) (by omega), ih _ (_ + 1) _ (by omega) (by omega)]
    | case4 fuel c rest cur hc =>
      simp only [hc, List.takeWhile_cons, List.dropWhile_cons, notSep, Bool.not_false, if_true]
      rw [ih rest fuel (c :: cur) (Nat.le_of_succ_le_succ hr) (Nat.le_of_succ_le_succ h)]
      simp

theorem spl_eq (r : List Nat) : spl r = r.takeWhile notSep :: elemsFrom (r.dropWhile notSep) := by
  unfold spl
  rw [splitAux_eq _ _ _ _ (Nat.le_refl _) (Nat.le_succ _)]
  simp

theorem elemsFrom_nil : elemsFrom [] = [] := rfl

theorem elemsFrom_eq (suf : List Nat) (h : suf ≠ []) :
    elemsFrom suf = (suf.dropWhile isSep).takeWhile notSep ::
      elemsFrom ((suf.dropWhile isSep).dropWhile notSep) := by
  unfold elemsFrom
  rw [if_neg h, spl_eq]
  rfl

structure Name (n : List Nat) : Prop where
  ne_nil : n ≠ []
  noSep : sep ∉ n

/-- Text of a relative part: each element followed by `k+1` separators. -/
def flat : List (List Nat × Nat) → List Nat
  | [] => []
  | e :: es => e.1 ++ (List.replicate (e.2 + 1) sep ++ flat es)

theorem isSep_eq_false {c : Nat} {n : List Nat} (hn : sep ∉ n) (hc : c ∈ n) : isSep c = false := by
  cases h : isSep c with
  | false => rfl
  | true => exact absurd ((isSep_iff c).1 h ▸ hc) hn

theorem isSep_at'_eq_false {n : List Nat} (hn : sep ∉ n) (i : Nat) : isSep (at' n i) = false :=
  Bool.eq_false_iff.2 fun h => at'_ne_of_not_mem (by decide) hn i ((isSep_iff _).1 h)

theorem isSep_headD_eq_false {t : List Nat} (ht : sep ∉ t) : isSep (t.headD 0) = false :=
  at'_eq_headD t 0 ▸ isSep_at'_eq_false ht 0

theorem isSep_headD_flat (es : List (List Nat × Nat)) (r : List Nat) (hes : ∀ e ∈ es, Name e.1)
    (hr : isSep (r.headD 0) = false) : isSep ((flat es ++ r).headD 0) = false := by
  cases es with
  | nil => exact hr
  | cons e es =>
    obtain ⟨h1, h2⟩ := hes e (List.mem_cons_self ..)
    cases hn : e.1 with
    | nil => exact absurd hn h1
    | cons c cs => rw [flat, hn]; exact isSep_eq_false h2 (by rw [hn]; exact List.mem_cons_self ..)

theorem takeWhile_seps (k : Nat) (r : List Nat) (hr : isSep (r.headD 0) = false) :
    (List.replicate k sep ++ r).takeWhile isSep = List.replicate k sep ∧
      (List.replicate k sep ++ r).dropWhile isSep = r :=
  takeWhile_append_stop _ r (fun a ha => (List.mem_replicate.1 ha).2 ▸ isSep_sep)
    (fun c hc => by rw [List.headD_eq_head?_getD, hc] at hr; exact hr)

theorem leadingSeps_decomp (k : Nat) (es : List (List Nat × Nat)) (tail : List Nat)
    (hes : ∀ e ∈ es, Name e.1) (ht : sep ∉ tail) :
    leadingSeps (List.replicate k sep ++ flat es ++ tail) = k := by
  unfold leadingSeps
  rw [List.append_assoc,
    (takeWhile_seps k _ (isSep_headD_flat es tail hes (isSep_headD_eq_false ht))).1,
    List.length_replicate]

theorem length_le_flat (es : List (List Nat × Nat)) : es.length ≤ (flat es).length := by
  induction es with
  | nil => exact Nat.le_refl 0
  | cons e es ih => simp [flat]; omega

theorem flat_eq_nil (es : List (List Nat × Nat)) (tail : List Nat) (hes : ∀ e ∈ es, Name e.1) :
    flat es ++ tail = [] ↔ es = [] ∧ tail = [] := by
  refine ⟨fun h => ?_, fun h => by rw [h.1, h.2]; rfl⟩
  cases es with
  | nil => exact ⟨rfl, h⟩
  | cons e es' =>
    exact absurd (List.append_eq_nil_iff.1 (List.append_eq_nil_iff.1 h).1).1
      (hes e (by simp)).ne_nil

theorem mem_flat {c : Nat} {es : List (List Nat × Nat)} :
    c ∈ flat es ↔ (c = sep ∧ es ≠ []) ∨ ∃ e ∈ es, c ∈ e.1 := by
  induction es with
  | nil => simp [flat]
  | cons e es ih =>
    simp only [flat, List.mem_append, List.mem_replicate, ih, List.mem_cons, exists_eq_or_imp]
    constructor
    · rintro (h | ⟨-, h⟩ | ⟨h, -⟩ | h)
      · exact Or.inr (Or.inl h)
      · exact Or.inl ⟨h, List.cons_ne_nil _ _⟩
      · exact Or.inl ⟨h, List.cons_ne_nil _ _⟩
      · exact Or.inr (Or.inr h)
    · rintro (⟨h, -⟩ | h | h)
      · exact Or.inr (Or.inl ⟨Nat.succ_ne_zero _, h⟩)
      · exact Or.inl h
      · exact Or.inr (Or.inr (Or.inr h))

theorem flat_snoc (es : List (List Nat × Nat)) (n : List Nat) (j : Nat) :
    flat (es ++ [(n, j)]) = flat es ++ n ++ List.replicate (j + 1) sep := by
  induction es with
  | nil => simp [flat]
  | cons e es ih => simp [flat, ih]

theorem flat_ends (es : List (List Nat × Nat)) : EndsIn sep (flat es) := by
  rcases List.eq_nil_or_concat es with rfl | ⟨es', e, rfl⟩
  · exact Or.inl rfl
  · exact Or.inr ⟨flat es' ++ e.1 ++ List.replicate e.2 sep, by
      rw [List.concat_eq_append, flat_snoc, List.replicate_succ', ← List.append_assoc]⟩

theorem takeWhile_name (n x : List Nat) (hn : sep ∉ n) (hx : isSep (x.headD 0) = true ∨ x = []) :
    (n ++ x).takeWhile notSep = n ∧ (n ++ x).dropWhile notSep = x := by
  refine takeWhile_append_stop n x (fun a ha => by rw [notSep, isSep_eq_false hn ha]; rfl)
    fun c hc => ?_
  rcases hx with hx | rfl
  · rw [List.headD_eq_head?_getD, hc] at hx
    rw [notSep, show isSep c = true from hx]
    rfl
  · cases hc

theorem spl_name (t : List Nat) (ht : sep ∉ t) : spl t = [t] := by
  have := takeWhile_name t [] ht (Or.inr rfl)
  rw [List.append_nil] at this
  rw [spl_eq, this.1, this.2]; rfl

theorem spl_flat_append (es : List (List Nat × Nat)) (r : List Nat) (hes : ∀ e ∈ es, Name e.1)
    (hr : isSep (r.headD 0) = false) : spl (flat es ++ r) = es.map (·.1) ++ spl r := by
  induction es with
  | nil => rfl
  | cons e es ih =>
    have hes' : ∀ e ∈ es, Name e.1 := fun e he => hes e (List.mem_cons_of_mem _ he)
    have := takeWhile_name e.1 (List.replicate (e.2 + 1) sep ++ (flat es ++ r))
      (hes e (by simp)).noSep (Or.inl (by simp [List.replicate_succ, isSep_sep]))
    rw [flat, List.append_assoc, List.append_assoc, spl_eq, this.1, this.2, elemsFrom,
      if_neg (by simp [List.replicate_succ]),
      (takeWhile_seps _ _ (isSep_headD_flat es r hes' hr)).2, ih hes']
    rfl

theorem parse_decomp (k : Nat) (es : List (List Nat × Nat)) (tail : List Nat)
    (hes : ∀ e ∈ es, Name e.1) (ht : sep ∉ tail) :
    parse (List.replicate k sep ++ flat es ++ tail)
      = ⟨decide (0 < k), if es = [] ∧ tail = [] then [] else es.map (·.1) ++ [tail]⟩ := by
  have hhd := isSep_headD_flat es tail hes (isSep_headD_eq_false ht)
  unfold parse splitNames
  rw [List.append_assoc, (takeWhile_seps k _ hhd).2]
  simp only [flat_eq_nil es tail hes]
  rw [← spl_name tail ht,
    ← spl_flat_append es tail hes (isSep_headD_eq_false ht)]
  congr 1
  cases k with
  | zero => rw [List.replicate_zero, List.nil_append, hhd]; rfl
  | succ k => simp [List.replicate_succ, isSep_sep]

theorem exists_decomp (s : List Nat) :
    ∃ k es tail,
      s = List.replicate k sep ++ flat es ++ tail ∧ (∀ e ∈ es, Name e.1) ∧ sep ∉ tail := by
  induction s with
  | nil => exact ⟨0, [], [], rfl, by simp, by simp⟩
  | cons c r ih =>
    obtain ⟨k, es, tail, hr, hes, ht⟩ := ih
    by_cases hc : c = sep
    · subst hc
      exact ⟨k + 1, es, tail, by rw [hr]; simp [List.replicate_succ], hes, ht⟩
    · have hc' : sep ∉ [c] := by simp; exact fun h => hc h.symm
      cases k with
      | succ k =>
        refine ⟨0, ([c], k) :: es, tail, by rw [hr]; simp [flat], ?_, ht⟩
        intro e he
        rcases List.mem_cons.1 he with rfl | he
        · exact ⟨by simp, hc'⟩
        · exact hes e he
      | zero =>
        cases es with
        | nil =>
          exact ⟨0, [], c :: tail, by rw [hr]; simp [flat], by simp,
            by simp; exact ⟨fun h => hc h.symm, ht⟩⟩
        | cons e es' =>
          refine ⟨0, (c :: e.1, e.2) :: es', tail, by rw [hr]; simp [flat], ?_, ht⟩
          intro e' he
          rcases List.mem_cons.1 he with rfl | he
          · exact ⟨by simp, by simp; exact ⟨fun h => hc h.symm, (hes e (by simp)).noSep⟩⟩
          · exact hes e' (by simp [he])

theorem rootText_eq (root : Bool) : rootText root = List.replicate root.toNat sep := by
  cases root <;> rfl

theorem rootDirRange_eq (s : List Nat) : rootDirRange s = (leadingSeps s - 1, leadingSeps s) := by
  unfold rootDirRange
  simp only
  split
  · next h => rw [h]
  · rfl

theorem rootPathRange_eq (s : List Nat) : rootPathRange s = (leadingSeps s - 1, leadingSeps s) :=
  rootDirRange_eq s

theorem rootDir_nonempty (b : List Nat) : (!(rootDirRange b).isEmpty) = isSep (at' b 0) := by
  unfold rootDirRange leadingSeps Range.isEmpty at'
  cases b with
  | nil => simp [isSep_zero]
  | cons c t => by_cases hc : isSep c = true <;> simp [hc]

/-- The root directory of `'/'^k ++ r` is the last of the `k` separators. -/
theorem slice_lastSep (k : Nat) (r : List Nat) (n : Nat) :
    slice (List.replicate k sep ++ r) (k - 1, k + n) = rootText (decide (0 < k)) ++ r.take n := by
  unfold slice
  cases k with
  | zero => simp [rootText]
  | succ k =>
    show List.take (k + 1 + n - k) (List.drop k _) = _
    rw [List.replicate_succ', List.append_assoc, List.drop_left' (List.length_replicate ..),
      show k + 1 + n - k = n + 1 by omega]
    rfl

theorem rootPathRange_decomp (k : Nat) (es : List (List Nat × Nat)) (tail : List Nat)
    (hes : ∀ e ∈ es, Name e.1) (ht : sep ∉ tail) :
    rootPathRange (List.replicate k sep ++ flat es ++ tail) = (k - 1, k) ∧
      slice (List.replicate k sep ++ flat es ++ tail) (k - 1, k) = rootText (decide (0 < k)) := by
  have := slice_lastSep k (flat es ++ tail) 0
  rw [Nat.add_zero, List.take_zero, List.append_nil, ← List.append_assoc] at this
  exact ⟨by rw [rootPathRange_eq, leadingSeps_decomp k es tail hes ht], this⟩

theorem parse_rootText_decomp (root : Bool) (es : List (List Nat × Nat)) (tail : List Nat)
    (hes : ∀ e ∈ es, Name e.1) (ht : sep ∉ tail) :
    parse (rootText root ++ flat es ++ tail)
      = ⟨root, if es = [] ∧ tail = [] then [] else es.map (·.1) ++ [tail]⟩ := by
  rw [rootText_eq, parse_decomp _ es tail hes ht]
  cases root <;> rfl

end Zix.Path.Scan

import ZixModel.Model.StrView
/-! The comparison loop and the viewed bytes, index by index of the storage. -/
namespace Zix.StrView

theorem cmpLoop_iff (mem : List Nat) (a b : Nat) (i n : Nat) :
    cmpLoop mem a b i n = true ↔ ∀ j, j < n → mem[a + i + j]? = mem[b + i + j]? := by
  induction n generalizing i with
  | zero => exact ⟨fun _ _ h => absurd h (Nat.not_lt_zero _), fun _ => rfl⟩
  | succ n ih =>
    rw [cmpLoop, List.head?_drop, List.head?_drop, Nat.forall_lt_succ_left]
    by_cases h : mem[a + i]? = mem[b + i]?
    · rw [if_neg (by simpa using h), ih]
      simp only [Nat.add_zero, h, true_and, Nat.add_assoc, Nat.add_comm 1]
    · rw [if_pos (by simpa using h)]
      exact ⟨nofun, fun hh => absurd hh.1 h⟩

theorem bytes_getElem? (mem : List Nat) (v : View) (j : Nat) :
    (v.bytes mem)[j]? = if j < v.len then mem[v.off + j]? else none := by
  rw [View.bytes, List.getElem?_take, List.getElem?_drop]

theorem bytes_eq_iff (mem : List Nat) (l r : View) (hlen : l.len = r.len) :
    l.bytes mem = r.bytes mem ↔ ∀ j, j < l.len → mem[l.off + j]? = mem[r.off + j]? := by
  constructor
  · intro heq j hj
    have := congrArg (·[j]?) heq
    simpa only [bytes_getElem?, ← hlen, hj, if_true] using this
  · intro hall
    apply List.ext_getElem?
    intro j
    rw [bytes_getElem?, bytes_getElem?, ← hlen]
    split
    · exact hall j ‹_›
    · rfl

theorem viewEquals_iff (mem : List Nat) (l r : View) :
    viewEquals mem l r = true ↔ l.len = r.len ∧ l.bytes mem = r.bytes mem := by
  fun_cases viewEquals mem l r with
  | case1 h => exact ⟨nofun, fun hh => absurd hh.1 (by simpa using h)⟩
  | case2 h =>
    have hlen : l.len = r.len := by simpa using h
    rw [cmpLoop_iff, bytes_eq_iff mem l r hlen]
    simp only [hlen, true_and, Nat.add_zero]
  | case3 =>
    have : l = r := by
      cases l
      cases r
      simp_all
    simp [this]

theorem bytes_length (mem : List Nat) (v : View) (h : v.off + v.len ≤ mem.length) :
    (v.bytes mem).length = v.len := by
  rw [View.bytes, List.length_take, List.length_drop]
  omega

end Zix.StrView

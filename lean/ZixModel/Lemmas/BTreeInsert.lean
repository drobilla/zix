import ZixModel.Lemmas.BTreePages
/-! Insertion (namespace `Ins`), then lookup, clear and the minimum-size count of the B-tree. Every
walk is specified on the parent cut at the child it enters: an element list `P ++ C ++ S` with `e`
strictly between `P` and `S` (`Ins.sandwich`, `Ins.bracket` of BTreeBasic), so that membership and
`setInsert` pass to the segment `C`. The walk of `insertNode` is unfolded once into an equation
(`insertNode_inode`) whose branches are instances of one step `insStep`; one specification (`InsOK`)
is carried through it by induction on the height (`insertNode_spec`). -/
namespace Zix.BTree.Ins
open Zix.BTree.Pg
open Zix.BTree.Rem (suff)
open Zix.C08 (applyEvs PagesOK Tree.pages)

theorem mem_setInsert (e x : Nat) (l : List Nat) : x ∈ setInsert e l ↔ x = e ∨ x ∈ l := by
  fun_induction setInsert e l with
  | case1 | case2 | case3 => simp
  | case4 y ys h1 h2 ih =>
    simp only [List.mem_cons, ih]
    exact or_left_comm

theorem setInsert_sorted (e : Nat) (l : List Nat) (h : l.Pairwise (· < ·)) :
    (setInsert e l).Pairwise (· < ·) := by
  fun_induction setInsert e l with
  | case1 => simp
  | case2 x xs hlt =>
    refine List.pairwise_cons.2 ⟨fun a ha => ?_, h⟩
    rcases List.mem_cons.1 ha with rfl | ha
    · exact hlt
    · exact Nat.lt_trans hlt ((List.pairwise_cons.1 h).1 a ha)
  | case3 xs _ => exact h
  | case4 x xs h1 h2 ih =>
    have hy := List.pairwise_cons.1 h
    refine List.pairwise_cons.2 ⟨fun a ha => ?_, ih hy.2⟩
    rcases (mem_setInsert e a xs).1 ha with rfl | ha
    · omega
    · exact hy.1 a ha

theorem setInsert_length (e : Nat) (l : List Nat) (h : e ∉ l) :
    (setInsert e l).length = l.length + 1 := by
  fun_induction setInsert e l with
  | case1 => rfl
  | case2 => rfl
  | case3 x xs => exact absurd List.mem_cons_self h
  | case4 x xs _ _ ih => rw [List.length_cons, ih fun hm => h (List.mem_cons_of_mem _ hm)]; rfl

theorem child_sublist (cs : List Node) (vs : List Nat) (i : Nat) (d : Node)
    (hi : i < cs.length) (hl : cs.length = vs.length + 1) :
    (cs.getD i d).elems.Sublist (interleave cs vs) := by
  rw [show cs.getD i d = cs.getD i (.leaf 0 []) by simp [List.getD_eq_getElem?_getD, hi]]
  exact Zix.BTree.child_sublist (by omega) hl

theorem list_split_at (l : List Nat) (k : Nat) (hk : k < l.length) :
    l = l.take k ++ l.getD k 0 :: l.drop (k + 1) := by
  have h1 : l.getD k 0 = l[k] := by
    simp [List.getD_eq_getElem?_getD, List.getElem?_eq_getElem hk]
  rw [h1, ← List.drop_eq_getElem_cons hk, List.take_append_drop]

theorem interleave_take_drop (k : Nat) (cs : List Node) (vs : List Nat) (hk : k < vs.length)
    (hl : cs.length = vs.length + 1) :
    interleave cs vs = interleave (cs.take (k + 1)) (vs.take k) ++
      vs.getD k 0 :: interleave (cs.drop (k + 1)) (vs.drop (k + 1)) := by
  have := interleave_merge (cs.take (k + 1)) (vs.take k) (vs.getD k 0) (cs.drop (k + 1))
    (vs.drop (k + 1)) (by rw [List.length_take, List.length_take]; omega)
  rw [← this, ← list_split_at vs k hk, List.take_append_drop]

/-! What `splitChild` makes of a full child `n`: the separator that moves up into the parent
(`splitM`), the left half, which keeps the page of `n` (`splitL`), and the right half on the new
page `rid` (`splitR`). -/

def splitM (c : Cfg) (n : Node) : Nat := n.vals.getD (c.maxVals n / 2) 0

def splitL (c : Cfg) : Node → Node
  | .leaf id lv => .leaf id (lv.take (c.leafMax / 2))
  | .inode id lv lc => .inode id (lv.take (c.inodeMax / 2)) (lc.take (c.inodeMax / 2 + 1))

def splitR (c : Cfg) (rid : Nat) : Node → Node
  | .leaf _ lv => .leaf rid (lv.drop (c.leafMax / 2 + 1))
  | .inode _ lv lc => .inode rid (lv.drop (c.inodeMax / 2 + 1)) (lc.drop (c.inodeMax / 2 + 1))

theorem splitChild_app (c : Cfg) (vals : List Nat) (pre : List Node) (x : Node) (post : List Node)
    (rid : Nat) :
    splitChild c vals (pre ++ x :: post) pre.length rid =
      (ainsert vals pre.length (splitM c x), pre ++ splitL c x :: splitR c rid x :: post) := by
  unfold splitChild
  rw [getD_app _ _ _ _ rfl]
  cases x <;>
    simp only [set_app _ _ _ _ rfl, cinsert_app1 _ _ _ _ rfl, splitM, splitL, splitR,
      Cfg.maxVals, Node.isLeaf, Node.vals, if_true, Bool.false_eq_true, if_false]

/-- `(n + 1) / 2 - 1` is the minimum occupancy, by one formula for leaves and internal nodes. -/
theorem split_half {vs : List Nat} {n : Nat} (hlen : vs.length = n) (hpos : 1 ≤ n) :
    vs = vs.take (n / 2) ++ vs.getD (n / 2) 0 :: vs.drop (n / 2 + 1) ∧
    (vs.take (n / 2)).length = n / 2 ∧ (vs.drop (n / 2 + 1)).length = n - (n / 2 + 1) ∧
    (n + 1) / 2 - 1 ≤ (vs.take (n / 2)).length ∧ (vs.take (n / 2)).length < n ∧
    (n + 1) / 2 - 1 ≤ (vs.drop (n / 2 + 1)).length ∧ (vs.drop (n / 2 + 1)).length < n := by
  have hh : n / 2 < n := Nat.div_lt_self hpos (by decide)
  rw [List.length_take, List.length_drop, hlen, Nat.min_eq_left (Nat.le_of_lt hh)]
  exact ⟨list_split_at vs (n / 2) (hlen ▸ hh), rfl, rfl, by omega⟩

theorem split_spec (c : Cfg) (hc : c.Valid) (rid : Nat) {r : Bool} {h : Nat} {n : Node}
    (hs : Shape c r h n) (hfull : c.isFull n = true) :
    Shape c false h (splitL c n) ∧ Shape c false h (splitR c rid n) ∧
    (splitL c n).nVals < c.maxVals (splitL c n) ∧
    (splitR c rid n).nVals < c.maxVals (splitR c rid n) ∧
    n.elems = (splitL c n).elems ++ splitM c n :: (splitR c rid n).elems := by
  have h3 := hc.inode3
  cases n with
  | leaf id vs =>
    obtain ⟨rfl, -, -⟩ := shape_leaf.1 hs
    have hlen : vs.length = c.leafMax := eq_of_beq hfull
    obtain ⟨e, -, -, l1, l2, r1, r2⟩ := split_half hlen (by have := hc.leaf; omega)
    exact ⟨shape_leaf.2 ⟨rfl, Nat.le_of_lt l2, Or.inr l1⟩,
      shape_leaf.2 ⟨rfl, Nat.le_of_lt r2, Or.inr r1⟩, l2, r2, e⟩
  | inode id vs cs =>
    obtain ⟨h', rfl, -, -, -, hl, hall⟩ := shape_inode.1 hs
    rw [shapeAll_iff] at hall
    have hlen : vs.length = c.inodeMax := eq_of_beq hfull
    obtain ⟨-, tl, tr, l1, l2, r1, r2⟩ := split_half hlen (by omega)
    have hm := (inode_fit hc).2.2
    refine ⟨shape_inode_mk (Nat.le_trans hm l1) (Nat.le_of_lt l2) (Or.inr l1) ?_
        (shapeAll_iff.2 fun x hx => hall x (List.mem_of_mem_take hx)),
      shape_inode_mk (Nat.le_trans hm r1) (Nat.le_of_lt r2) (Or.inr r1) ?_
        (shapeAll_iff.2 fun x hx => hall x (List.mem_of_mem_drop hx)),
      l2, r2, interleave_take_drop (c.inodeMax / 2) cs vs (by rw [hlen, ← tl]; exact l2) hl⟩
    · rw [List.length_take, hl, hlen, tl]
      exact Nat.min_eq_left (Nat.succ_le_succ (Nat.div_le_self _ _))
    · rw [List.length_drop, hl, hlen, tr]; exact Nat.succ_sub (tl ▸ l2)

theorem split_pages (c : Cfg) (rid : Nat) (n : Node) :
    (pages (splitL c n) ++ pages (splitR c rid n)).Perm (pages n ++ [rid]) := by
  cases n with
  | leaf id vs => exact List.Perm.refl _
  | inode id vs cs =>
    simp only [splitL, splitR, pages_inode, List.cons_append,
      pagesL_take_drop cs (c.inodeMax / 2 + 1)]
    exact .cons id (.trans List.perm_middle (List.perm_append_comm (l₁ := [rid])))

theorem lt_max_of_not_full {c : Cfg} {r : Bool} {h : Nat} {n : Node} (hs : Shape c r h n)
    (hfull : ¬ c.isFull n = true) : n.nVals < c.maxVals n := by
  have h1 := shape_le_max hs
  have h2 : n.nVals ≠ c.maxVals n := by simpa [Cfg.isFull] using hfull
  omega

theorem shape_split {c : Cfg} {r : Bool} {h' id m : Nat} {vpre vpost : List Nat}
    {pre post : List Node} {x l r' : Node}
    (h2 : (vpre ++ vpost).length < c.inodeMax)
    (h3 : r = true ∨ c.inodeMin ≤ (vpre ++ vpost).length)
    (h4 : (pre ++ x :: post).length = (vpre ++ vpost).length + 1)
    (hs1 : ShapeAll c h' pre) (hl : Shape c false h' l) (hr : Shape c false h' r')
    (hs2 : ShapeAll c h' post) :
    Shape c r (h' + 1) (.inode id (vpre ++ m :: vpost) (pre ++ l :: r' :: post)) := by
  simp only [List.length_append, List.length_cons] at h2 h3 h4
  refine shape_inode_mk ?_ ?_ (h3.imp (fun x => x) fun h => ?_) ?_
    (shapeAll_append.2 ⟨hs1, shapeAll_cons.2 ⟨hl, shapeAll_cons.2 ⟨hr, hs2⟩⟩⟩) <;>
    simp only [List.length_append, List.length_cons] <;> omega

/-- What one (sub)walk delivers: `old` are the elements of the node it started from, `a`/`a'` the
allocator state before/after, `n'` the new node, `st` the status. -/
structure InsSpec (c : Cfg) (fails : Nat → Bool) (e : Nat) (r : Bool) (h : Nat) (a : AllocSt)
    (old : List Nat) (a' : AllocSt) (n' : Node) (st : Status) : Prop where
  shape : Shape c r h n'
  added : st = .success → e ∉ old ∧ n'.elems = setInsert e old
  present : st = .exists_ → e ∈ old ∧ n'.elems = old
  refused : st = .noMem → n'.elems = old ∧ ∃ k, a.reqs ≤ k ∧ k < a'.reqs ∧ fails k = true
  found : st ≠ .notFound

section
variable {c : Cfg} {fails : Nat → Bool} {e : Nat} {r : Bool} {h : Nat} {a a1 a' : AllocSt}
  {old : List Nat} {n' : Node} {st : Status}

theorem InsSpec.exists_ (hs : Shape c r h n') (hm : e ∈ old) (hel : n'.elems = old) :
    InsSpec c fails e r h a old a' n' .exists_ :=
  ⟨hs, nofun, fun _ => ⟨hm, hel⟩, nofun, nofun⟩

theorem InsSpec.noMem (hs : Shape c r h n') (hel : n'.elems = old) {k : Nat} (h1 : a.reqs ≤ k)
    (h2 : k < a'.reqs) (hk : fails k = true) : InsSpec c fails e r h a old a' n' .noMem :=
  ⟨hs, nofun, nofun, fun _ => ⟨hel, k, h1, h2, hk⟩, nofun⟩

theorem InsSpec.mono_alloc (hx : InsSpec c fails e r h a1 old a' n' st) (ha : a.reqs ≤ a1.reqs) :
    InsSpec c fails e r h a old a' n' st :=
  { hx with
    refused := fun hst =>
      (hx.refused hst).imp_right fun ⟨k, hk1, hk2, hk3⟩ => ⟨k, Nat.le_trans ha hk1, hk2, hk3⟩ }
end

def InsOK (c : Cfg) (fails : Nat → Bool) (e : Nat) (r : Bool) (h : Nat) (a0 : AllocSt)
    (old P0 : List Nat) (o : InsOut) : Prop :=
  InsSpec c fails e r h a0 old o.a o.node o.st ∧ InsPg a0 P0 o.a (pages o.node) o.evs

/-- one step of the walk: go on from `a` in the child `x` of the parent `vals' (pre ++ x :: post)`,
after `evs` and `k` comparisons, and put the result back -/
def insStep (c : Cfg) (fails : Nat → Bool) (fuel id : Nat) (a : AllocSt) (vals' : List Nat)
    (pre : List Node) (x : Node) (post : List Node) (evs : List Ev) (k e : Nat) : InsOut :=
  ⟨(insertNode c fails fuel a x e).a,
    .inode id vals' (pre ++ (insertNode c fails fuel a x e).node :: post),
    (insertNode c fails fuel a x e).st, evs ++ (insertNode c fails fuel a x e).evs,
    k + (insertNode c fails fuel a x e).cmps⟩

theorem insertNode_inode (c : Cfg) (fails : Nat → Bool) (fuel : Nat) (a : AllocSt) (id e : Nat)
    {vpre vpost : List Nat} {pre post : List Node} {x : Node} {k : Nat}
    (hi : vpre.length = pre.length)
    (hnf : nodeFind (.inode id (vpre ++ vpost) (pre ++ x :: post)) e = (pre.length, false, k)) :
    insertNode c fails (fuel + 1) a (.inode id (vpre ++ vpost) (pre ++ x :: post)) e =
      if c.isFull x = true then
        if fails a.reqs = true then
          ⟨{ a with reqs := a.reqs + 1 }, .inode id (vpre ++ vpost) (pre ++ x :: post), .noMem,
            [.allocFail], k⟩
        else if splitM c x < e then
          insStep c fails fuel id ⟨a.next + 1, a.reqs + 1⟩ (vpre ++ splitM c x :: vpost)
            (pre ++ [splitL c x]) (splitR c a.next x) post [.alloc a.next] (k + 1) e
        else if splitM c x = e then
          ⟨⟨a.next + 1, a.reqs + 1⟩,
            .inode id (vpre ++ splitM c x :: vpost)
              (pre ++ splitL c x :: splitR c a.next x :: post),
            .exists_, [.alloc a.next], k + 1⟩
        else
          insStep c fails fuel id ⟨a.next + 1, a.reqs + 1⟩ (vpre ++ splitM c x :: vpost) pre
            (splitL c x) (splitR c a.next x :: post) [.alloc a.next] (k + 1) e
      else insStep c fails fuel id a (vpre ++ vpost) pre x post [] k e := by
  simp only [insertNode, hnf, Bool.false_eq_true, if_false, getD_app _ _ _ _ rfl, insStep]
  by_cases hfull : c.isFull x = true
  · rw [if_pos hfull, if_pos hfull]
    by_cases hf : fails a.reqs = true
    · simp only [allocPage, hf, if_true]
    · simp only [allocPage, hf, Bool.false_eq_true, if_false, splitChild_app,
        ainsert_app _ _ _ hi,
        getD_app _ _ _ _ hi, getD_app _ _ _ _ rfl, getD_app1 _ _ _ _ _ rfl, set_app _ _ _ _ rfl,
        set_app1 _ _ _ _ _ rfl, List.append_assoc, List.singleton_append]
  · rw [if_neg hfull, if_neg hfull, set_app _ _ _ _ rfl]; rfl

/-- the walk into child `x` (result `IH`), seen from the parent, after a first part `hstep` of the
walk that led from `a0`, `P0` to this parent -/
theorem insStep_spec {c : Cfg} {fails : Nat → Bool} {e fuel id : Nat} {r : Bool} {h' : Nat}
    {a0 a : AllocSt} {P0 old vals' vpre vpost : List Nat} {pre post : List Node} {x : Node}
    {evs : List Ev} (k : Nat)
    (IH : InsOK c fails e false h' a x.elems (pages x) (insertNode c fails fuel a x e))
    (ha : a0.reqs ≤ a.reqs) (hstep : InsPg a0 P0 a (id :: pagesL (pre ++ x :: post)) evs)
    (hv : vals' = vpre ++ vpost) (hi : vpre.length = pre.length)
    (hlen : post.length = vpost.length)
    (hold : old = interleave (pre ++ x :: post) vals') (hsorted : old.Pairwise (· < ·))
    (hlo : ∀ v ∈ vpre, v < e) (hhi : ∀ v ∈ vpost, e < v)
    (hshape : ∀ y, Shape c false h' y → Shape c r (h' + 1) (.inode id vals' (pre ++ y :: post))) :
    InsOK c fails e r (h' + 1) a0 old P0 (insStep c fails fuel id a vals' pre x post evs k e) := by
  subst hv hold
  rw [interleave_mid _ _ _ _ _ hi] at hsorted ⊢
  have hsw := bracket hlen hsorted hlo hhi
  obtain ⟨S, IP⟩ := IH
  have hnew : (insStep c fails fuel id a (vpre ++ vpost) pre x post evs k e).node.elems =
      pref pre vpre ++ (insertNode c fails fuel a x e).node.elems ++ suff post vpost := by
    rw [insStep, elems_inode, interleave_mid _ _ _ _ _ hi]
  refine ⟨⟨hshape _ S.shape, fun hst => ?_, fun hst => ?_, fun hst => ?_, S.found⟩,
    hstep.trans (InsPg.cons id (InsPg.mid pre post IP))⟩
  · obtain ⟨h1, h2⟩ := S.added hst
    exact ⟨fun hm => h1 (hsw.1.mp hm), by rw [hnew, h2, hsw.2]⟩
  · obtain ⟨h1, h2⟩ := S.present hst
    exact ⟨hsw.1.mpr h1, by rw [hnew, h2]⟩
  · obtain ⟨h1, q, hq1, hq2, hq3⟩ := S.refused hst
    exact ⟨by rw [hnew, h1], q, Nat.le_trans ha hq1, hq2, hq3⟩

/-- The walk down of `zix_btree_insert`: shape, elements and status (`InsSpec`) and pages (`InsPg`)
in one statement. -/
theorem insertNode_spec (c : Cfg) (hc : c.Valid) (fails : Nat → Bool) (e : Nat) {fuel h : Nat}
    {r : Bool} {n : Node} (hs : Shape c r h n) (hfuel : h ≤ fuel) :
    ∀ a, n.nVals < c.maxVals n → n.elems.Pairwise (· < ·) →
      InsOK c fails e r h a n.elems (pages n) (insertNode c fails fuel a n e) := by
  refine walk_ind (fun fuel r id vals hs => ?_) (fun fuel r h' id vals cs hs _ _ _ ih => ?_)
    hs hfuel <;>
    intro a hnotfull hsorted
  · have hvs : vals.Pairwise (· < ·) := hsorted
    rcases hnf : nodeFind (.leaf id vals) e with ⟨i, eq, k⟩
    rw [shape_leaf] at hs
    simp only [insertNode, hnf, elems_leaf]
    cases eq with
    | true =>
      obtain ⟨vpre, vpost, hv, -⟩ := nodeFind_hit hnf hvs
      exact ⟨.exists_ (shape_leaf.2 hs) (by rw [show vals = _ from hv]; simp) rfl,
        InsPg.refl _ _⟩
    | false =>
      obtain ⟨vpre, vpost, hv, hi, hlo, hhi⟩ := nodeFind_miss hnf hvs
      obtain rfl : vals = vpre ++ vpost := hv
      have hlt : (vpre ++ vpost).length < c.leafMax := hnotfull
      have hsw := sandwich e vpre [] vpost hlo hhi
      simp only [Bool.false_eq_true, if_false, ainsert_app _ _ _ hi]
      have hl1 : (vpre ++ e :: vpost).length = (vpre ++ vpost).length + 1 := by
        simp only [List.length_append, List.length_cons]; omega
      have hsh : Shape c r 1 (.leaf id (vpre ++ e :: vpost)) :=
        shape_leaf.2
          ⟨hs.1, by rw [hl1]; omega, hs.2.2.imp (fun x => x) fun h => by rw [hl1]; omega⟩
      exact ⟨⟨hsh, fun _ => ⟨by simpa using hsw.1, by simpa [setInsert] using hsw.2.symm⟩,
          nofun, nofun, nofun⟩,
        InsPg.refl _ _⟩
  · have hvs : vals.Pairwise (· < ·) := hsorted.sublist (shape_vals_sublist hs)
    rcases hnf : nodeFind (.inode id vals cs) e with ⟨i, eq, k⟩
    obtain ⟨hv1, hvmax, hmin, hlen, hall⟩ := shape_inode_succ hs
    simp only [elems_inode] at hsorted ⊢
    cases eq with
    | true =>
      obtain ⟨vpre, vpost, hv, -⟩ := nodeFind_hit hnf hvs
      simp only [insertNode, hnf, if_true]
      exact ⟨.exists_ hs
          ((vals_sublist cs vals (by omega)).subset (by rw [show vals = _ from hv]; simp)) rfl,
        InsPg.refl _ _⟩
    | false =>
      obtain ⟨vpre, vpost, hv, hi, hlo, hhi⟩ := nodeFind_miss hnf hvs
      obtain rfl : vals = vpre ++ vpost := hv
      obtain ⟨pre, child, post, rfl, hpre, -, -⟩ :=
        split1 cs i (by simp only [List.length_append] at hlen; omega)
      subst hpre
      have hlen' : post.length = vpost.length := by
        simp only [List.length_append, List.length_cons] at hlen; omega
      simp only [shapeAll_append, shapeAll_cons] at hall
      obtain ⟨hs1, hchs, hs2⟩ := hall
      have hmid := interleave_mid pre vpre child post vpost hi
      have hcsorted : child.elems.Pairwise (· < ·) := by
        rw [hmid] at hsorted
        exact (List.pairwise_append.1 (List.pairwise_append.1 hsorted).1).2.1
      have hvlen : (vpre ++ vpost).length < c.inodeMax := hnotfull
      rw [insertNode_inode c fails fuel a id e hi hnf]
      by_cases hfull : c.isFull child = true
      · rw [if_pos hfull]
        by_cases hf : fails a.reqs = true
        · rw [if_pos hf]
          exact ⟨.noMem hs rfl (Nat.le_refl _) (Nat.lt_succ_self _) hf, InsPg.fail rfl⟩
        · rw [if_neg hf]
          obtain ⟨hL, hR, hLnf, hRnf, hsplit⟩ := split_spec c hc a.next hchs hfull
          have hstep := InsPg.split (a := a) (id := id) pre post (split_pages c a.next child)
          generalize splitL c child = L at hL hLnf hsplit hstep ⊢
          generalize splitR c a.next child = R at hR hRnf hsplit hstep ⊢
          generalize splitM c child = m at hsplit ⊢
          have hel : interleave (pre ++ child :: post) (vpre ++ vpost) =
              interleave (pre ++ L :: R :: post) (vpre ++ m :: vpost) := by
            rw [hmid, interleave_mid _ _ _ _ _ hi, Rem.suff_cons, interleave_cons, hsplit]
            simp only [List.append_assoc, List.cons_append]
          have hshape : ∀ l r', Shape c false h' l → Shape c false h' r' →
              Shape c r (h' + 1) (.inode id (vpre ++ m :: vpost) (pre ++ l :: r' :: post)) :=
            fun l r' hl hr => shape_split hvlen hmin hlen hs1 hl hr hs2
          rw [hsplit] at hcsorted
          have hq := List.pairwise_append.mp hcsorted
          by_cases hlt1 : m < e
          · rw [if_pos hlt1]
            -- into `R`: the parent is cut one place further right, `vpre ++ [m]` and `pre ++ [L]`
            -- in front of the child
            have hlo' : ∀ v ∈ vpre ++ [m], v < e := fun v hv => by
              rcases List.mem_append.1 hv with hv | hv
              · exact hlo v hv
              · exact List.mem_singleton.1 hv ▸ hlt1
            have hi' : (vpre ++ [m]).length = (pre ++ [L]).length := by simp [hi]
            rw [List.append_cons pre L] at hstep hel
            exact insStep_spec (k + 1) (ih R hR _ hRnf (List.pairwise_cons.mp hq.2.1).2)
              (Nat.le_succ _) hstep (List.append_cons vpre m vpost) hi' hlen' hel hsorted hlo' hhi
              fun y hy => by simpa using hshape L y hL hy
          · rw [if_neg hlt1]
            by_cases heq1 : m = e
            · rw [if_pos heq1]
              exact ⟨.exists_ (hshape _ _ hL hR) (by rw [hmid, hsplit, ← heq1]; simp)
                (by rw [elems_inode, hel]), hstep⟩
            · rw [if_neg heq1]
              -- into `L`: the cut stays where it is, `m :: vpost` and `R :: post` follow the child
              have hhi' : ∀ v ∈ m :: vpost, e < v := fun v hv => by
                rcases List.mem_cons.1 hv with rfl | hv
                · omega
                · exact hhi v hv
              have hlen'' : (R :: post).length = (m :: vpost).length := by simp [hlen']
              exact insStep_spec (k + 1) (ih L hL _ hLnf hq.1) (Nat.le_succ _) hstep rfl hi hlen''
                hel hsorted hlo hhi' fun y hy => hshape y R hy hR
      · rw [if_neg hfull]
        exact insStep_spec k (ih child hchs a (lt_max_of_not_full hchs hfull) hcsorted)
          (Nat.le_refl _) (InsPg.refl _ _) rfl hi hlen' rfl hsorted hlo hhi
          (fun y hy => shape_inode_mk hv1 hvmax hmin (by simpa using hlen)
            (by simp only [shapeAll_append, shapeAll_cons]; exact ⟨hs1, hy, hs2⟩))

/-- `Tree.insert`: `grow_up` when the root is full, then the walk down; only `grow_up` changes the
height. -/
theorem tree_insert_spec (c : Cfg) (hc : c.Valid) (fails : Nat → Bool) (a : AllocSt) (t : Tree)
    (e : Nat) (hw : WF c t) : ∀ r, t.insert c fails a e = r →
    InsSpec c fails e true (height r.2.1.root) a t.root.elems r.1 r.2.1.root r.2.2.1 ∧
      (height r.2.1.root = height t.root ∨
        c.isFull t.root = true ∧ height r.2.1.root = height t.root + 1) ∧
      r.2.1.size = (if r.2.2.1 = .success then t.size + 1 else t.size) ∧
      (PagesOK a t → ∃ live, applyEvs (Tree.pages t) r.2.2.2.1 = some live ∧
        live.Perm (Tree.pages r.2.1) ∧ PagesOK r.1 r.2.1) := by
  rintro _ rfl
  have hsh := hw.shape
  have hso := hw.sorted
  unfold Tree.insert
  by_cases hfull : c.isFull t.root = true
  · simp only [hfull, if_true]
    by_cases hf1 : fails a.reqs = true
    · simp only [allocPage, hf1, if_true]
      exact ⟨.noMem hsh rfl (Nat.le_refl _) (Nat.lt_succ_self _) hf1, Or.inl trivial, by simp,
        fun hp => ⟨_, rfl, List.Perm.refl _, hp⟩⟩
    · by_cases hf2 : fails (a.reqs + 1) = true
      · simp only [allocPage, hf1, hf2, Bool.false_eq_true, if_false, if_true]
        refine ⟨.noMem hsh rfl (Nat.le_succ _) (Nat.lt_succ_self _) hf2, Or.inl trivial, by simp,
          fun hp => ?_⟩
        have hm : a.next ∉ Tree.pages t := fun h => Nat.lt_irrefl _ (hp.2 _ h)
        exact ⟨_, by simp [applyEvs, hm], List.Perm.refl _, hp.1,
          fun id hid => Nat.lt_succ_of_lt (hp.2 id hid)⟩
      · have hsc : splitChild c [] [t.root] 0 (a.next + 1) =
            ([splitM c t.root], [splitL c t.root, splitR c (a.next + 1) t.root]) :=
          splitChild_app c [] [] t.root [] _
        simp only [allocPage, hf1, hf2, Bool.false_eq_true, if_false, hsc]
        obtain ⟨hL, hR, hLnf, hRnf, hsplit⟩ := split_spec c hc (a.next + 1) hsh hfull
        have hpg := split_pages c (a.next + 1) t.root
        have h3 := hc.inode3
        generalize splitL c t.root = L at hL hLnf hsplit hpg ⊢
        generalize splitR c (a.next + 1) t.root = R at hR hRnf hsplit hpg ⊢
        generalize splitM c t.root = m at hsplit ⊢
        have hnew : Shape c true (height t.root + 1) (.inode a.next [m] [L, R]) :=
          shape_inode_mk (Nat.le_refl _) (by simp only [List.length_singleton]; omega) (Or.inl rfl)
            rfl (shapeAll_cons.2 ⟨hL, shapeAll_cons.2 ⟨hR, shapeAll_nil⟩⟩)
        have hel : (Node.inode a.next [m] [L, R]).elems = t.root.elems := by
          rw [hsplit]; simp
        have hstep : InsPg a (pages t.root) { next := a.next + 1 + 1, reqs := a.reqs + 1 + 1 }
            (pages (.inode a.next [m] [L, R])) ([.alloc a.next] ++ [.alloc (a.next + 1)]) := by
          refine ⟨noFree_append (noFree_alloc _) (noFree_alloc _), 2, rfl,
            by simp [List.range'_succ], ?_⟩
          simpa using (hpg.cons a.next).trans List.perm_middle.symm
        -- fuel `height + 2`: the walk starts at the new root, one level above the old one
        obtain ⟨IH, IP⟩ := insertNode_spec c hc fails e (fuel := height t.root + 2) hnew (by omega)
          { next := a.next + 1 + 1, reqs := a.reqs + 1 + 1 } (show 1 < c.inodeMax by omega)
          (by rw [hel]; exact hso)
        rw [hel] at IH
        rw [shape_height IH.shape]
        exact ⟨IH.mono_alloc (by dsimp only; omega), Or.inr ⟨trivial, rfl⟩, trivial,
          (hstep.trans IP).finish rfl⟩
  · simp only [hfull, Bool.false_eq_true, if_false]
    obtain ⟨IH, IP⟩ := insertNode_spec c hc fails e (fuel := height t.root + 1) hsh (by omega) a
      (lt_max_of_not_full hsh hfull) hso
    rw [shape_height IH.shape]
    exact ⟨IH, Or.inl rfl, trivial, IP.finish rfl⟩

end Zix.BTree.Ins

namespace Zix.BTree
open Zix.BTree.Pg
open Zix.C08 (applyEvs PagesOK Tree.pages)

theorem findNode_spec (c : Cfg) (e : Nat) :
    ∀ {fuel h : Nat} {r : Bool} {n : Node}, Shape c r h n → h ≤ fuel →
    n.elems.Pairwise (· < ·) →
    ((findNode fuel n e).1.isSome ↔ e ∈ n.elems) ∧
    ∀ p, (findNode fuel n e).1 = some p → deref n (some p) = some e := by
  intro fuel
  induction fuel with
  | zero =>
    intro h r n hs hf _
    have := shape_pos hs
    omega
  | succ fuel ih =>
    intro h r n hs hfuel hso
    have hvs := hso.sublist (shape_vals_sublist hs)
    rcases hnf : nodeFind n e with ⟨i, eq, k⟩
    simp only [findNode, hnf]
    cases eq with
    | true =>
      obtain ⟨vpre, vpost, hv, hi⟩ := nodeFind_hit hnf hvs
      refine ⟨by simpa using (shape_vals_sublist hs).subset (show e ∈ n.vals by rw [hv]; simp),
        fun p hp => ?_⟩
      obtain rfl : p = [i] := by simpa using hp.symm
      simp only [deref, nodeAt_single]
      rw [hv, getElem?_app _ _ _ hi]
    | false =>
      obtain ⟨vpre, vpost, hv, hi, hlo, hhi⟩ := nodeFind_miss hnf hvs
      simp only [Bool.false_eq_true, if_false]
      cases n with
      | leaf id vs =>
        obtain rfl : vs = vpre ++ vpost := hv
        simpa [isLeaf_leaf] using (Ins.sandwich e vpre [] vpost hlo hhi).1
      | inode id vs cs =>
        obtain ⟨h', rfl, -, -, -, hlen, hall⟩ := shape_inode.1 hs
        obtain rfl : vs = vpre ++ vpost := hv
        obtain ⟨pre, child, post, rfl, hpre, -, -⟩ :=
          split1 cs i (by simp only [List.length_append] at hlen; omega)
        subst hpre
        have hlen' : post.length = vpost.length := by
          simp only [List.length_append, List.length_cons] at hlen; omega
        simp only [shapeAll_append, shapeAll_cons] at hall
        rw [elems_inode, interleave_mid _ _ _ _ _ hi] at hso ⊢
        have hsw := (Ins.bracket hlen' hso hlo hhi).1
        simp only [isLeaf_inode, Bool.false_eq_true, if_false, child_inode,
          getD_app _ _ _ _ rfl]
        have IH :=
          ih hall.2.1 (by omega) (List.pairwise_append.1 (List.pairwise_append.1 hso).1).2.1
        rcases hrec : findNode fuel child e with ⟨res, k'⟩
        rw [hrec] at IH
        simp only [Option.isSome_map] at IH ⊢
        refine ⟨by rw [hsw]; exact IH.1, fun p hp => ?_⟩
        cases res with
        | none => simp at hp
        | some p' =>
          obtain rfl : p = pre.length :: p' := by simpa using hp.symm
          have hd := IH.2 p' rfl
          have hne : p' ≠ [] := by rintro rfl; simp [deref, nodeAt_nil] at hd
          simpa only [deref, nodeAt_cons (.inode id _ _) _ _ hne rfl, child_inode,
            getD_app _ _ _ _ rfl] using hd

theorem findNode_cmps (c : Cfg) (hc : c.Valid) (e : Nat) :
    ∀ {fuel h : Nat} {r : Bool} {n : Node},
    Shape c r h n → (findNode fuel n e).2 ≤ h * (Nat.log2 c.leafMax + 1) := by
  intro fuel
  induction fuel with
  | zero => intro h r n hs; simp [findNode]
  | succ fuel ih =>
    intro h r n hs
    rcases hnf : nodeFind n e with ⟨i, eq, k⟩
    obtain ⟨hidx, hk⟩ := nodeFind_bounds hnf (shape_lt_pow hc hs)
    simp only [findNode, hnf]
    cases n with
    | leaf id vs =>
      obtain ⟨rfl, -⟩ := shape_leaf.1 hs
      cases eq <;> simpa [isLeaf_leaf] using hk
    | inode id vs cs =>
      obtain ⟨h', rfl, -, -, -, hlen, hall⟩ := shape_inode.1 hs
      have IH := ih (shapeAll_getD (i := i) hall
        (Nat.lt_of_le_of_lt hidx (by rw [hlen]; exact Nat.lt_succ_self _)))
      rw [Nat.succ_mul]
      cases eq
      · simp only [isLeaf_inode, Bool.false_eq_true, if_false, child_inode]
        omega
      · simp only [if_true]
        omega

theorem interleave_perm (cs : List Node) : ∀ (vs : List Nat), cs.length = vs.length + 1 →
    (interleave cs vs).Perm (cs.flatMap Node.elems ++ vs) := by
  induction cs with
  | nil => intro vs h; simp at h
  | cons c cs ih =>
    intro vs h
    cases vs with
    | nil =>
      have : cs = [] := by simpa using h
      subst this
      simp [interleave_cons_nil]
    | cons v vs =>
      have := ih vs (by simpa using h)
      simp only [interleave_cons_cons, List.flatMap_cons, List.append_assoc]
      refine List.Perm.append_left _ ?_
      refine (List.Perm.cons v this).trans ?_
      exact (List.perm_middle (a := v) (l₁ := cs.flatMap Node.elems) (l₂ := vs)).symm

theorem flatMap_perm (cs : List Node) (f g : Node → List Nat)
    (h : ∀ x ∈ cs, (f x).Perm (g x)) : (cs.flatMap f).Perm (cs.flatMap g) := by
  induction cs with
  | nil => simp
  | cons x xs ih =>
    simp only [List.flatMap_cons]
    exact List.Perm.append (h x (by simp)) (ih (fun y hy => h y (by simp [hy])))

theorem flatMap_frees (cs : List Node) (f : Node → List Ev)
    (h : ∀ x ∈ cs, AllFree (f x) ∧ (pages x).Perm (frees (f x))) :
    AllFree (cs.flatMap f) ∧ (pagesL cs).Perm (frees (cs.flatMap f)) := by
  induction cs with
  | nil => simp
  | cons x xs ih =>
    obtain ⟨a1, a2⟩ := h x (by simp)
    obtain ⟨b1, b2⟩ := ih (fun y hy => h y (by simp [hy]))
    simp only [List.flatMap_cons, pagesL_cons, frees_append]
    exact ⟨allFree_append.2 ⟨a1, b1⟩, List.Perm.append a2 b2⟩

theorem destroyOrder_spec (c : Cfg) {fuel h : Nat} {r : Bool} {n : Node} (hs : Shape c r h n)
    (hf : h ≤ fuel) :
    (destroyOrder fuel n).1.Perm n.elems ∧ AllFree (destroyOrder fuel n).2 ∧
      (pages n).Perm (frees (destroyOrder fuel n).2 ++ [n.id]) := by
  refine walk_ind (fun f rt id vs _ => ?_) (fun f rt k id vs cs _ _ hlen hall ih => ?_) hs hf
  · simp [destroyOrder, Node.id]
  · simp only [destroyOrder, elems_inode, List.flatMap_map, pages_inode, Node.id]
    have hp := flatMap_frees cs (fun ch => (destroyOrder f ch).2 ++ [Ev.free ch.id])
      fun x hx => by
        obtain ⟨-, a1, a2⟩ := ih x (shapeAll_iff.1 hall x hx)
        exact ⟨by simpa using a1, by simpa using a2⟩
    refine ⟨List.Perm.trans ?_ (interleave_perm cs vs hlen).symm, hp.1,
      (List.Perm.cons id hp.2).trans (List.perm_append_comm (l₁ := [id]))⟩
    exact List.Perm.append_right _
      (flatMap_perm cs _ _ fun x hx => (ih x (shapeAll_iff.1 hall x hx)).1)

theorem clear_pages (c : Cfg) (a : AllocSt) (t : Tree) (h : WF c t) (hp : PagesOK a t) :
    ∃ live, applyEvs (Tree.pages t) (t.clear).2.2 = some live ∧
      live.Perm (Tree.pages (t.clear).1) ∧ PagesOK a (t.clear).1 := by
  obtain ⟨-, d1, d2⟩ := destroyOrder_spec c h.shape (Nat.le_succ (height t.root))
  exact frees_finish d1 (by simpa [Tree.clear] using d2) rfl hp

theorem interleave_length (cs : List Node) : ∀ (vs : List Nat), cs.length = vs.length + 1 →
    (interleave cs vs).length + 1 = (cs.map (fun c => c.elems.length + 1)).sum := by
  induction cs with
  | nil => intro vs h; simp at h
  | cons c cs ih =>
    intro vs h
    cases vs with
    | nil =>
      have : cs = [] := by simpa using h
      subst this
      simp [interleave_cons_nil]
    | cons v vs =>
      have := ih vs (by simpa using h)
      simp only [interleave_cons_cons, List.length_append, List.length_cons, List.map_cons,
        List.sum_cons]
      omega

theorem sum_ge (cs : List Node) (f : Node → Nat) (P : Nat) (h : ∀ x ∈ cs, P ≤ f x) :
    cs.length * P ≤ (cs.map f).sum := by
  induction cs with
  | nil => simp
  | cons x xs ih =>
    have h1 := h x (by simp)
    have h2 := ih (fun y hy => h y (by simp [hy]))
    simp only [List.length_cons, List.map_cons, List.sum_cons, Nat.add_mul, Nat.one_mul]
    omega

theorem min_elems_nonroot (c : Cfg) {h : Nat} {rt : Bool} {n : Node} (hs : Shape c rt h n) :
    rt = false → (c.inodeMin + 1) ^ (h - 1) * (c.leafMin + 1) ≤ n.elems.length + 1 := by
  refine shape_ind (fun rt id vs hs => ?_) (fun rt k id vs cs hs hl hall ih => ?_) hs <;>
    rintro rfl
  · obtain ⟨-, -, hmin⟩ := shape_leaf.1 hs
    simp at hmin ⊢; omega
  · obtain ⟨-, -, hmin, -, -⟩ := shape_inode_succ hs
    have hmin' : c.inodeMin ≤ vs.length := by simpa using hmin
    obtain ⟨g, rfl⟩ : ∃ g, k = g + 1 :=
      ⟨k - 1, by have := shape_pos (shapeAll_getD hall (i := 0) (by omega)); omega⟩
    rw [elems_inode, interleave_length cs vs hl]
    refine Nat.le_trans ?_
      (sum_ge cs (fun x => x.elems.length + 1) _ fun x hx => ih x (shapeAll_iff.1 hall x hx) rfl)
    rw [Nat.add_sub_cancel, Nat.add_sub_cancel, Nat.pow_succ, Nat.mul_assoc,
      Nat.mul_comm ((c.inodeMin + 1) ^ g) _, Nat.mul_assoc, Nat.mul_comm (c.leafMin + 1) _]
    exact Nat.mul_le_mul_right _ (by omega)

theorem min_elems_root (c : Cfg) (h : Nat) (n : Node) (hs : Shape c true h n) (h2 : 2 ≤ h) :
    c.minElems h ≤ n.elems.length := by
  cases n with
  | leaf id vs => obtain ⟨he, _⟩ := shape_leaf.1 hs; omega
  | inode id vs cs =>
    obtain ⟨h', rfl, hv1, _, _, hl, hall⟩ := shape_inode.1 hs
    have hsum := sum_ge cs (fun x => x.elems.length + 1) _
      (fun x hx => min_elems_nonroot c (shapeAll_iff.1 hall x hx) rfl)
    have hlen := interleave_length cs vs hl
    have h2' : 2 * ((c.inodeMin + 1) ^ (h' - 1) * (c.leafMin + 1)) ≤
        cs.length * ((c.inodeMin + 1) ^ (h' - 1) * (c.leafMin + 1)) :=
      Nat.mul_le_mul_right _ (by omega)
    rw [elems_inode]
    unfold Cfg.minElems
    rw [show h' + 1 - 2 = h' - 1 by omega, Nat.mul_assoc]
    omega

theorem minElems_le_size (c : Cfg) (t : Tree) (h : WF c t) (h2 : 2 ≤ height t.root) :
    c.minElems (height t.root) ≤ t.size :=
  h.size ▸ min_elems_root c (height t.root) t.root h.shape h2

theorem minElems_mono (c : Cfg) {a b : Nat} (hab : a ≤ b) : c.minElems a ≤ c.minElems b := by
  unfold Cfg.minElems
  have h1 : (c.inodeMin + 1) ^ (a - 2) ≤ (c.inodeMin + 1) ^ (b - 2) :=
    Nat.pow_le_pow_right (by omega) (by omega)
  have h2 := Nat.mul_le_mul_right (c.leafMin + 1) (Nat.mul_le_mul_left 2 h1)
  omega

end Zix.BTree

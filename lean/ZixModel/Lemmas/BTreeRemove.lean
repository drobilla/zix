import ZixModel.Lemmas.BTreePages
import ZixModel.Lemmas.BTreeIter
/-! Removal from the B-tree: each function of the removal gets one specification of what it does to
shape, elements and pages. Rotations and merge act on two siblings (`Sib`, `merge_local`) and leave
a walk a `Prepared` parent. The three walks (`removeMin`, `removeMax`, `removeNode`) enter a child
only after the same preparation `prep`, and `removeMin` / `removeMax` are one proof
(`removeExt_spec`). `Post`, the postcondition of `removeNode`, writes the elements as `A ++ e :: B`,
so that the place where `e` stood has a name, and the rank of the path of the `next` iterator is
that place (`Next`). That a removal only releases pages is a pass of its own over the same functions
(`*_evs`): `C01.remove_events_are_frees` claims it of every tree, well formed or not, so it cannot
ride on the specifications. -/
namespace Zix.BTree.Rem
open Zix.BTree.Pg
open Zix.C08 (applyEvs PagesOK Tree.pages)
open Zix.C02 (ValidIter)

/-- the choice of `zix_btree_replace_value`: the replacement comes from the fuller neighbour, on a
tie from the left one for odd `i` -/
def fromLeft (l r : Node) (i : Nat) : Bool :=
  if l.nVals > r.nVals then true else if r.nVals > l.nVals then false else i % 2 = 1

theorem replaceValue_eq (c : Cfg) (fuel id vals children i) :
    replaceValue c fuel id vals children i =
      if (!c.canRemoveFrom (children.getD i (.leaf 0 [])) &&
          !c.canRemoveFrom (children.getD (i + 1) (.leaf 0 []))) = true then none
      else if
          fromLeft (children.getD i (.leaf 0 [])) (children.getD (i + 1) (.leaf 0 [])) i = true then
        some (.inode id (vals.set i (removeMax c fuel (children.getD i (.leaf 0 []))).2.1)
          (children.set i (removeMax c fuel (children.getD i (.leaf 0 []))).1), vals.getD i 0, true,
          (removeMax c fuel (children.getD i (.leaf 0 []))).2.2)
      else
        some (.inode id (vals.set i (removeMin c fuel (children.getD (i + 1) (.leaf 0 []))).2.1)
          (children.set (i + 1) (removeMin c fuel (children.getD (i + 1) (.leaf 0 []))).1),
          vals.getD i 0, false,
          (removeMin c fuel (children.getD (i + 1) (.leaf 0 []))).2.2) :=
  rfl

/-- the head of `Tree.remove`: a root whose only two children are both minimal is merged away -/
def preRoot (c : Cfg) (n : Node) : Node × List Ev :=
  match n with
  | .inode id [v] [l, r] =>
    if !c.canRemoveFrom l && !c.canRemoveFrom r then
      ((mergeAt [v] [l, r] 0).2.1.getD 0 (.leaf 0 []),
        [.free id, .free (mergeAt [v] [l, r] 0).2.2])
    else (n, [])
  | n => (n, [])

/-- the tail of `Tree.remove`: the results, from the outcome `r` of the walk -/
def removeResult (t : Tree) (ev0 : List Ev) (r : RemOut) :
    Tree × Status × Option Nat × Iter × List Ev × Nat :=
  match r.out with
  | none => ({ t with root := r.node }, .notFound, none, none, ev0 ++ r.evs, r.cmps)
  | some out =>
    (({ t with root := r.node, size := t.size - 1 } : Tree), .success, some out,
      (if t.size - 1 = 0 then none else if r.incr then increment r.node r.path else some r.path),
      ev0 ++ r.evs, r.cmps)

theorem remove_eq (c : Cfg) (t : Tree) (e : Nat) :
    t.remove c e =
      removeResult t (preRoot c t.root).2
        (removeNode c (height (preRoot c t.root).1 + 1) (preRoot c t.root).1 e) :=
  rfl

/-! The `*_evs` lemmas speak of a result `r`: the case analysis of a caller that binds
`let (n', v, ev) := removeMin …` leaves the hypothesis `removeMin … = (n', v, ev)`. -/

theorem removeMin_evs (c : Cfg) (fuel n) : ∀ r, removeMin c fuel n = r → AllFree r.2.2 := by
  rintro _ rfl
  fun_induction removeMin c fuel n <;> simp_all

theorem removeMax_evs (c : Cfg) (fuel n) : ∀ r, removeMax c fuel n = r → AllFree r.2.2 := by
  rintro _ rfl
  fun_induction removeMax c fuel n <;> simp_all

theorem fattenChild_evs (c : Cfg) (vals children i) :
    ∀ r, fattenChild c vals children i = r → AllFree r.2.2.2 := by
  rintro _ rfl
  fun_cases fattenChild c vals children i <;> simp [*]

theorem replaceValue_evs (c : Cfg) (fuel id vals children i) :
    ∀ r, replaceValue c fuel id vals children i = some r → AllFree r.2.2.2 := by
  fun_cases replaceValue c fuel id vals children i <;> rintro _ ⟨⟩
  · exact removeMax_evs _ _ _ _ ‹_›
  · exact removeMin_evs _ _ _ _ ‹_›

theorem removeNode_evs (c : Cfg) (fuel n e) : AllFree (removeNode c fuel n e).evs := by
  fun_induction removeNode c fuel n e <;>
    simp +zetaDelta only [allFree_nil, allFree_cons, allFree_append, and_true, *]
  -- left: the events of `replaceValue` and of `fattenChild`
  · exact replaceValue_evs _ _ _ _ _ _ _ ‹_›
  · exact fattenChild_evs _ _ _ _ _ ‹_›

theorem preRoot_evs (c : Cfg) (n : Node) : AllFree (preRoot c n).2 := by
  fun_cases preRoot c n <;> simp

theorem remove_evs (c : Cfg) (t : Tree) (e : Nat) : AllFree (t.remove c e).2.2.2.2.1 := by
  rw [remove_eq]
  unfold removeResult
  split <;> simp [preRoot_evs, removeNode_evs]

/-- What a rotation does to two adjacent siblings `l`, `r` and their separator `v`: new siblings
`l'`, `r'` around `v'` of the same height, holding the same elements on the same pages. -/
structure Sib (c : Cfg) (h' : Nat) (l : Node) (v : Nat) (r l' : Node) (v' : Nat) (r' : Node) :
    Prop where
  shapeL : Shape c false h' l'
  shapeR : Shape c false h' r'
  elems  : l'.elems ++ v' :: r'.elems = l.elems ++ v :: r.elems
  pages  : (Pg.pages l' ++ Pg.pages r').Perm (Pg.pages l ++ Pg.pages r)

/-- The parent `vals' children'` stands for `vals children` after a rotation or merge that released
`evs`: same elements and pages, a value is left, child `i'` can spare a value and holds (at least)
the elements `S`. -/
structure Prepared (c : Cfg) (h' : Nat) (vals : List Nat) (children : List Node) (S : List Nat)
    (vals' : List Nat) (children' : List Node) (i' : Nat) (evs : List Ev) : Prop where
  len : children'.length = vals'.length + 1
  one : 1 ≤ vals'.length
  idx : i' ≤ vals'.length
  shape : ShapeAll c h' children'
  elems : interleave children' vals' = interleave children vals
  can : c.canRemoveFrom (children'.getD i' (.leaf 0 [])) = true
  /-- `S`: the elements among which the caller looks for `e` (the old child `i`; for the merge
  around a hit, all of the merged node), so that "absent from child `i'`" means absent from the tree
  (`desc_spec`) -/
  sub : ∀ x ∈ S, x ∈ (children'.getD i' (.leaf 0 [])).elems
  /-- a merge takes one value from the parent, a rotation none; this bounds the new occupancy: `vle`
  above (in `Prepared.step`), `vge` below (whoever calls it owes `k3`) -/
  vle : vals'.length ≤ vals.length
  vge : vals.length ≤ vals'.length + 1
  pages : (pagesL children).Perm (frees evs ++ pagesL children')

theorem Prepared.mono {c h' vals children S T vals' children' i' evs}
    (R : Prepared c h' vals children S vals' children' i' evs) (h : ∀ x ∈ T, x ∈ S) :
    Prepared c h' vals children T vals' children' i' evs :=
  { R with sub := fun x hx => R.sub x (h x hx) }

theorem Sib.frame {c : Cfg} {h' l v r l' v' r'} (S : Sib c h' l v r l' v' r') {pre post : List Node}
    {vpre vpost : List Nat} (hv : vpre.length = pre.length)
    (hs : ShapeAll c h' (pre ++ l :: r :: post)) :
    ShapeAll c h' (pre ++ l' :: r' :: post) ∧
    interleave (pre ++ l' :: r' :: post) (vpre ++ v' :: vpost) =
      interleave (pre ++ l :: r :: post) (vpre ++ v :: vpost) ∧
    (pagesL (pre ++ l :: r :: post)).Perm (pagesL (pre ++ l' :: r' :: post)) := by
  simp only [shapeAll_append, shapeAll_cons] at hs ⊢
  refine ⟨⟨hs.1, S.shapeL, S.shapeR, hs.2.2.2⟩, ?_, ?_⟩
  · have e := congrArg (· ++ suff post vpost) S.elems
    simp only [List.append_assoc, List.cons_append] at e
    rw [interleave_mid _ _ _ _ _ hv, interleave_mid _ _ _ _ _ hv, suff_cons, suff_cons,
      interleave_cons, interleave_cons, List.append_assoc, List.append_assoc, e]
  · simpa using pagesL_frame pre post (xs := [l, r]) (ys := [l', r']) (F := [])
      (by simpa using S.pages.symm)

theorem Sib.prepared {c : Cfg} {h' l v r l' v' r'} (S : Sib c h' l v r l' v' r')
    {pre post : List Node} {vpre vpost : List Nat} (hv : vpre.length = pre.length)
    (hs : ShapeAll c h' (pre ++ l :: r :: post))
    (hlen : (pre ++ l :: r :: post).length = (vpre ++ v :: vpost).length + 1) :
    (c.canRemoveFrom l' = true → (∀ x ∈ l.elems, x ∈ l'.elems) →
      Prepared c h' (vpre ++ v :: vpost) (pre ++ l :: r :: post) l.elems (vpre ++ v' :: vpost)
        (pre ++ l' :: r' :: post) pre.length []) ∧
    (c.canRemoveFrom r' = true → (∀ x ∈ r.elems, x ∈ r'.elems) →
      Prepared c h' (vpre ++ v :: vpost) (pre ++ l :: r :: post) r.elems (vpre ++ v' :: vpost)
        (pre ++ l' :: r' :: post) (pre.length + 1) []) := by
  obtain ⟨f1, f2, f3⟩ := S.frame (vpost := vpost) hv hs
  simp only [List.length_append, List.length_cons] at hlen
  refine ⟨fun hcan hsub =>
      { len := ?_, one := ?_, idx := ?_, vle := ?_, vge := ?_, shape := f1, elems := f2, pages := f3
        can := by rw [getD_app _ _ _ _ rfl]; exact hcan
        sub := by rw [getD_app _ _ _ _ rfl]; exact hsub },
    fun hcan hsub =>
      { len := ?_, one := ?_, idx := ?_, vle := ?_, vge := ?_, shape := f1, elems := f2, pages := f3
        can := by rw [getD_app1 _ _ _ _ _ rfl]; exact hcan
        sub := by rw [getD_app1 _ _ _ _ _ rfl]; exact hsub }⟩ <;>
    simp only [List.length_append, List.length_cons] <;> omega

theorem rotateLeft_leaf (vpre : List Nat) (v : Nat) (vpost : List Nat) (pre : List Node)
    (li lv ri x rv) (post : List Node) (hv : vpre.length = pre.length) :
    rotateLeft (vpre ++ v :: vpost) (pre ++ .leaf li lv :: .leaf ri (x :: rv) :: post) pre.length =
      (vpre ++ x :: vpost, pre ++ .leaf li (lv ++ [v]) :: .leaf ri rv :: post) := by
  simp only [rotateLeft, getD_app _ _ _ _ rfl, getD_app1 _ _ _ _ _ rfl, getD_app _ _ _ _ hv,
    set_app _ _ _ _ hv, set_app _ _ _ _ rfl, set_app1 _ _ _ _ _ rfl, List.headD_cons,
    List.tail_cons]

theorem rotateLeft_inode (vpre : List Nat) (v : Nat) (vpost : List Nat) (pre : List Node)
    (li lv lc ri x rv y rc) (post : List Node) (hv : vpre.length = pre.length) :
    rotateLeft (vpre ++ v :: vpost)
        (pre ++ .inode li lv lc :: .inode ri (x :: rv) (y :: rc) :: post) pre.length =
      (vpre ++ x :: vpost,
        pre ++ .inode li (lv ++ [v]) (lc ++ [y]) :: .inode ri rv rc :: post) := by
  simp only [rotateLeft, getD_app _ _ _ _ rfl, getD_app1 _ _ _ _ _ rfl, getD_app _ _ _ _ hv,
    set_app _ _ _ _ hv, set_app _ _ _ _ rfl, set_app1 _ _ _ _ _ rfl, List.headD_cons,
    List.tail_cons]

theorem rotateRight_leaf (vpre : List Nat) (v : Nat) (vpost : List Nat) (pre : List Node)
    (li lv x ri rv) (post : List Node) (hv : vpre.length = pre.length) :
    rotateRight (vpre ++ v :: vpost) (pre ++ .leaf li (lv ++ [x]) :: .leaf ri rv :: post)
        (pre.length + 1) =
      (vpre ++ x :: vpost, pre ++ .leaf li lv :: .leaf ri (v :: rv) :: post) := by
  simp only [rotateRight, Nat.add_sub_cancel, getD_app _ _ _ _ rfl, getD_app1 _ _ _ _ _ rfl,
    getD_app _ _ _ _ hv, set_app _ _ _ _ hv, set_app _ _ _ _ rfl, set_app1 _ _ _ _ _ rfl,
    List.getLastD_concat, List.dropLast_concat]

theorem rotateRight_inode (vpre : List Nat) (v : Nat) (vpost : List Nat) (pre : List Node)
    (li lv x lc y ri rv rc) (post : List Node) (hv : vpre.length = pre.length) :
    rotateRight (vpre ++ v :: vpost)
        (pre ++ .inode li (lv ++ [x]) (lc ++ [y]) :: .inode ri rv rc :: post) (pre.length + 1) =
      (vpre ++ x :: vpost, pre ++ .inode li lv lc :: .inode ri (v :: rv) (y :: rc) :: post) := by
  simp only [rotateRight, Nat.add_sub_cancel, getD_app _ _ _ _ rfl, getD_app1 _ _ _ _ _ rfl,
    getD_app _ _ _ _ hv, set_app _ _ _ _ hv, set_app _ _ _ _ rfl, set_app1 _ _ _ _ _ rfl,
    List.getLastD_concat, List.dropLast_concat]

theorem mergeAt_leaf (vpre : List Nat) (v : Nat) (vpost : List Nat) (pre : List Node)
    (li lv ri rv) (post : List Node) (hv : vpre.length = pre.length) :
    mergeAt (vpre ++ v :: vpost) (pre ++ .leaf li lv :: .leaf ri rv :: post) pre.length =
      (vpre ++ vpost, pre ++ .leaf li (lv ++ v :: rv) :: post, ri) := by
  simp only [mergeAt, getD_app _ _ _ _ rfl, getD_app1 _ _ _ _ _ rfl, getD_app _ _ _ _ hv,
    set_app _ _ _ _ rfl, eraseIdx_app _ _ _ hv, eraseIdx_app1 _ _ _ _ rfl, Node.id]

theorem mergeAt_inode (vpre : List Nat) (v : Nat) (vpost : List Nat) (pre : List Node)
    (li lv lc ri rv rc) (post : List Node) (hv : vpre.length = pre.length) :
    mergeAt (vpre ++ v :: vpost) (pre ++ .inode li lv lc :: .inode ri rv rc :: post) pre.length =
      (vpre ++ vpost, pre ++ .inode li (lv ++ v :: rv) (lc ++ rc) :: post, ri) := by
  simp only [mergeAt, getD_app _ _ _ _ rfl, getD_app1 _ _ _ _ _ rfl, getD_app _ _ _ _ hv,
    set_app _ _ _ _ rfl, eraseIdx_app _ _ _ hv, eraseIdx_app1 _ _ _ _ rfl, Node.id]

theorem merge_fits {m M a b : Nat} (hM : 2 * m + 1 ≤ M) (ha : a ≤ m) (hb : b ≤ m)
    (ha' : m ≤ a) (hb' : m ≤ b) :
    a + (b + 1) ≤ M ∧ m < a + (b + 1) := by omega

theorem gain_fits {m M a a' : Nat} (hM : m + 1 ≤ M) (hlo : m ≤ a) (hhi : a ≤ m) (h : a' = a + 1) :
    a' ≤ M ∧ m ≤ a' ∧ m < a' ∧ 1 ≤ a' := by omega

theorem lose_fits {m M a a' : Nat} (hlo : m < a) (hM : a ≤ M) (h : a' + 1 = a) :
    a' ≤ M ∧ m ≤ a' := by omega

theorem leaf_gain {c : Cfg} (hc : c.Valid) {h id vs vs'} (H : Shape c false h (.leaf id vs))
    (hmin : c.canRemoveFrom (.leaf id vs) = false) (hlen : vs'.length = vs.length + 1) :
    Shape c false h (.leaf id vs') ∧ c.canRemoveFrom (.leaf id vs') = true := by
  obtain ⟨h1, -, h3⟩ := shape_leaf.1 H
  obtain ⟨a1, a2, a3, -⟩ :=
    gain_fits (leaf_fit hc).2.1 (h3.resolve_left nofun) ((can_leaf_false ..).1 hmin) hlen
  exact ⟨shape_leaf.2 ⟨h1, a1, Or.inr a2⟩, (can_leaf ..).2 a3⟩

theorem leaf_lose {c : Cfg} {rt h id vs vs'} (H : Shape c rt h (.leaf id vs))
    (hcan : rt = true ∨ c.canRemoveFrom (.leaf id vs) = true) (hlen : vs'.length + 1 = vs.length) :
    Shape c rt h (.leaf id vs') := by
  obtain ⟨h1, h2, -⟩ := shape_leaf.1 H
  exact shape_leaf.2
    ⟨h1, by omega, hcan.imp_right fun hc => (lose_fits ((can_leaf ..).1 hc) h2 hlen).2⟩

theorem inode_gain {c : Cfg} (hc : c.Valid) {h' id vs vs' cs cs'}
    (H : Shape c false (h' + 1) (.inode id vs cs))
    (hmin : c.canRemoveFrom (.inode id vs cs) = false) (hlen : vs'.length = vs.length + 1)
    (hcl : cs'.length = vs'.length + 1) (hs : ShapeAll c h' cs') :
    Shape c false (h' + 1) (.inode id vs' cs') ∧ c.canRemoveFrom (.inode id vs' cs') = true := by
  obtain ⟨_, _, _, _, h3, _⟩ := shape_inode.1 H
  obtain ⟨a1, a2, a3, a4⟩ :=
    gain_fits (inode_fit hc).2.1 (h3.resolve_left nofun) ((can_inode_false ..).1 hmin) hlen
  exact ⟨shape_inode_mk a4 a1 (Or.inr a2) hcl hs, (can_inode ..).2 a3⟩

theorem inode_lose {c : Cfg} (hc : c.Valid) {h' id vs vs' cs cs'}
    (H : Shape c false (h' + 1) (.inode id vs cs))
    (hcan : c.canRemoveFrom (.inode id vs cs) = true) (hlen : vs'.length + 1 = vs.length)
    (hcl : cs'.length = vs'.length + 1) (hs : ShapeAll c h' cs') :
    Shape c false (h' + 1) (.inode id vs' cs') := by
  obtain ⟨_, _, _, h2, _⟩ := shape_inode.1 H
  obtain ⟨a1, a2⟩ := lose_fits ((can_inode ..).1 hcan) h2 hlen
  exact shape_inode_mk (Nat.le_trans (inode_fit hc).2.2 a2) a1 (Or.inr a2) hcl hs

theorem sibling_cases {c : Cfg} {h l r} (hl : Shape c false h l) (hr : Shape c false h r) :
    (∃ li lv ri rv, l = .leaf li lv ∧ r = .leaf ri rv) ∨
    ∃ li lv lc ri rv rc h', l = .inode li lv lc ∧ r = .inode ri rv rc ∧ h = h' + 1 ∧
      lc.length = lv.length + 1 ∧ rc.length = rv.length + 1 ∧
      ShapeAll c h' lc ∧ ShapeAll c h' rc := by
  cases l with
  | leaf li lv =>
    cases r with
    | leaf ri rv => exact .inl ⟨li, lv, ri, rv, rfl, rfl⟩
    | inode ri rv rc => exact (kind_contra hl hr).elim
  | inode li lv lc =>
    cases r with
    | leaf ri rv => exact (kind_contra hr hl).elim
    | inode ri rv rc =>
      obtain ⟨hl', rfl, _, _, _, hl4, hl5⟩ := shape_inode.1 hl
      obtain ⟨hr', hh, _, _, _, hr4, hr5⟩ := shape_inode.1 hr
      obtain rfl : hl' = hr' := by omega
      exact .inr ⟨li, lv, lc, ri, rv, rc, hl', rfl, rfl, rfl, hl4, hr4, hl5, hr5⟩

theorem rotL_local {c : Cfg} (hc : c.Valid) {h' l r} (v : Nat) (hl : Shape c false h' l)
    (hr : Shape c false h' r)
    (hdon : c.canRemoveFrom r = true) (hrec : c.canRemoveFrom l = false) :
    ∃ l' v' r', Sib c h' l v r l' v' r' ∧ c.canRemoveFrom l' = true ∧
      (∀ x ∈ l.elems, x ∈ l'.elems) ∧
      ∀ (vpre vpost : List Nat) (pre post : List Node), vpre.length = pre.length →
        rotateLeft (vpre ++ v :: vpost) (pre ++ l :: r :: post) pre.length =
          (vpre ++ v' :: vpost, pre ++ l' :: r' :: post) := by
  rcases sibling_cases hl hr with ⟨li, lv, ri, rv, rfl, rfl⟩ |
    ⟨li, lv, lc, ri, rv, rc, h'', rfl, rfl, rfl, hl4, hr4, hl5, hr5⟩
  · cases rv with
    | nil => simp at hdon
    | cons x rv =>
      obtain ⟨g1, g2⟩ := leaf_gain hc hl hrec (vs' := lv ++ [v]) (by simp)
      exact ⟨.leaf li (lv ++ [v]), x, .leaf ri rv,
        ⟨g1, leaf_lose hr (.inr hdon) rfl, by simp, by simp⟩, g2,
        fun y hy => by simp at hy ⊢; exact Or.inl hy,
        fun vpre vpost pre post hv => rotateLeft_leaf vpre v vpost pre li lv ri x rv post hv⟩
  · cases rv with
    | nil => simp at hdon
    | cons x rv =>
      cases rc with
      | nil => simp at hr4
      | cons y rc =>
        rw [shapeAll_cons] at hr5
        obtain ⟨g1, g2⟩ := inode_gain hc hl hrec (vs' := lv ++ [v]) (cs' := lc ++ [y]) (by simp)
          (by simp [hl4]) (shapeAll_append.2 ⟨hl5, shapeAll_cons.2 ⟨hr5.1, shapeAll_nil⟩⟩)
        refine ⟨.inode li (lv ++ [v]) (lc ++ [y]), x, .inode ri rv rc,
          ⟨g1, inode_lose hc hr hdon rfl (by simpa using hr4) hr5.2,
            by simp [interleave_snoc _ _ _ _ hl4], ?_⟩, g2,
          fun z hz => by simp [interleave_snoc _ _ _ _ hl4] at hz ⊢; exact Or.inl hz,
          fun vpre vpost pre post hv =>
            rotateLeft_inode vpre v vpost pre li lv lc ri x rv y rc post hv⟩
        simp only [pages_inode, pagesL_append, pagesL_cons, pagesL_nil, List.append_nil,
          List.append_assoc, List.cons_append]
        exact .cons li (.append_left _ List.perm_middle)

theorem rotR_local {c : Cfg} (hc : c.Valid) {h' l r} (v : Nat) (hl : Shape c false h' l)
    (hr : Shape c false h' r)
    (hdon : c.canRemoveFrom l = true) (hrec : c.canRemoveFrom r = false) :
    ∃ l' v' r', Sib c h' l v r l' v' r' ∧ c.canRemoveFrom r' = true ∧
      (∀ x ∈ r.elems, x ∈ r'.elems) ∧
      ∀ (vpre vpost : List Nat) (pre post : List Node), vpre.length = pre.length →
        rotateRight (vpre ++ v :: vpost) (pre ++ l :: r :: post) (pre.length + 1) =
          (vpre ++ v' :: vpost, pre ++ l' :: r' :: post) := by
  rcases sibling_cases hl hr with ⟨li, lv, ri, rv, rfl, rfl⟩ |
    ⟨li, lv, lc, ri, rv, rc, h'', rfl, rfl, rfl, hl4, hr4, hl5, hr5⟩
  · obtain ⟨lv, x, rfl⟩ := snoc_of_pos lv (by have := (can_leaf ..).1 hdon; omega)
    obtain ⟨g1, g2⟩ := leaf_gain hc hr hrec (vs' := v :: rv) rfl
    exact ⟨.leaf li lv, x, .leaf ri (v :: rv),
      ⟨leaf_lose hl (.inr hdon) (by simp), g1, by simp, by simp⟩, g2,
      fun y hy => by simp at hy ⊢; exact Or.inr hy,
      fun vpre vpost pre post hv => rotateRight_leaf vpre v vpost pre li lv x ri rv post hv⟩
  · obtain ⟨lv, x, rfl⟩ := snoc_of_pos lv (by have := (can_inode ..).1 hdon; omega)
    obtain ⟨lc, y, rfl⟩ := snoc_of_pos lc (by omega)
    rw [shapeAll_append, shapeAll_cons] at hl5
    have hl4' : lc.length = lv.length + 1 := by simpa using hl4
    obtain ⟨g1, g2⟩ := inode_gain hc hr hrec (vs' := v :: rv) (cs' := y :: rc) rfl (by simp [hr4])
      (shapeAll_cons.2 ⟨hl5.2.1, hr5⟩)
    refine ⟨.inode li lv lc, x, .inode ri (v :: rv) (y :: rc),
      ⟨inode_lose hc hl hdon (by simp) hl4' hl5.1, g1,
        by simp [interleave_snoc _ _ _ _ hl4'], ?_⟩, g2,
      fun z hz => by simp at hz ⊢; exact Or.inr (Or.inr hz),
      fun vpre vpost pre post hv =>
        rotateRight_inode vpre v vpost pre li lv x lc y ri rv rc post hv⟩
    simp only [pages_inode, pagesL_append, pagesL_cons, pagesL_nil, List.append_nil,
      List.append_assoc, List.cons_append]
    exact .cons li (.append_left _ List.perm_middle.symm)

theorem merge_local {c : Cfg} (hc : c.Valid) {h' l r} (v : Nat) (hl : Shape c false h' l)
    (hr : Shape c false h' r)
    (hl0 : c.canRemoveFrom l = false) (hr0 : c.canRemoveFrom r = false) :
    ∃ m, Shape c false h' m ∧ c.canRemoveFrom m = true ∧ m.elems = l.elems ++ v :: r.elems ∧
      (Pg.pages l ++ Pg.pages r).Perm (r.id :: Pg.pages m) ∧
      ∀ (vpre vpost : List Nat) (pre post : List Node), vpre.length = pre.length →
        mergeAt (vpre ++ v :: vpost) (pre ++ l :: r :: post) pre.length =
          (vpre ++ vpost, pre ++ m :: post, r.id) := by
  rcases sibling_cases hl hr with ⟨li, lv, ri, rv, rfl, rfl⟩ |
    ⟨li, lv, lc, ri, rv, rc, h'', rfl, rfl, rfl, hl4, hr4, hl5, hr5⟩
  · obtain ⟨h1, -, hl3⟩ := shape_leaf.1 hl
    obtain ⟨-, -, hr3⟩ := shape_leaf.1 hr
    obtain ⟨a1, a2⟩ := merge_fits (leaf_fit hc).1 ((can_leaf_false ..).1 hl0)
      ((can_leaf_false ..).1 hr0) (hl3.resolve_left nofun) (hr3.resolve_left nofun)
    rw [← List.length_cons (a := v), ← List.length_append] at a1 a2
    exact ⟨.leaf li (lv ++ v :: rv), shape_leaf.2 ⟨h1, a1, Or.inr (Nat.le_of_lt a2)⟩,
      (can_leaf ..).2 a2, by simp, List.Perm.swap ri li [],
      fun vpre vpost pre post hv => mergeAt_leaf vpre v vpost pre li lv ri rv post hv⟩
  · obtain ⟨_, _, _, _, hl3, _⟩ := shape_inode.1 hl
    obtain ⟨_, _, _, _, hr3, _⟩ := shape_inode.1 hr
    obtain ⟨a1, a2⟩ := merge_fits (inode_fit hc).1 ((can_inode_false ..).1 hl0)
      ((can_inode_false ..).1 hr0) (hl3.resolve_left nofun) (hr3.resolve_left nofun)
    rw [← List.length_cons (a := v), ← List.length_append] at a1 a2
    refine ⟨.inode li (lv ++ v :: rv) (lc ++ rc),
      shape_inode_mk (Nat.zero_lt_of_lt a2) a1 (Or.inr (Nat.le_of_lt a2))
        (by simp only [List.length_append, List.length_cons, hl4, hr4]; omega)
        (shapeAll_append.2 ⟨hl5, hr5⟩),
      (can_inode ..).2 a2, by simp [interleave_merge _ _ _ _ _ hl4], ?_,
      fun vpre vpost pre post hv => mergeAt_inode vpre v vpost pre li lv lc ri rv rc post hv⟩
    simp only [pages_inode, pagesL_append, Node.id]
    exact List.perm_middle (l₁ := li :: pagesL lc)

theorem rotateLeft_spec {c : Cfg} (hc : c.Valid) {h' vals children i}
    (hlen : children.length = vals.length + 1) (hi : i < vals.length)
    (hs : ShapeAll c h' children)
    (hdon : c.canRemoveFrom (children.getD (i + 1) (.leaf 0 [])) = true)
    (hrec : c.canRemoveFrom (children.getD i (.leaf 0 [])) = false) :
    ∃ vals' children', rotateLeft vals children i = (vals', children') ∧
      vals'.length = vals.length ∧
      Prepared c h' vals children (children.getD i (.leaf 0 [])).elems vals' children' i [] := by
  obtain ⟨pre, l, r, post, rfl, hpre⟩ := split2 children i (by omega)
  obtain ⟨vpre, v, vpost, rfl, hvpre, -, -⟩ := split1 vals i hi
  subst hpre
  rw [getD_app1 _ _ _ _ _ rfl] at hdon
  rw [getD_app _ _ _ _ rfl] at hrec ⊢
  have hs' := hs
  simp only [shapeAll_append, shapeAll_cons] at hs'
  obtain ⟨l', v', r', S, hcan, hsub, heq⟩ := rotL_local hc v hs'.2.1 hs'.2.2.1 hdon hrec
  exact ⟨_, _, heq vpre vpost pre post hvpre, by simp only [List.length_append, List.length_cons],
    (S.prepared hvpre hs hlen).1 hcan hsub⟩

theorem rotateRight_spec {c : Cfg} (hc : c.Valid) {h' vals children j}
    (hlen : children.length = vals.length + 1) (hi : j < vals.length)
    (hs : ShapeAll c h' children)
    (hdon : c.canRemoveFrom (children.getD j (.leaf 0 [])) = true)
    (hrec : c.canRemoveFrom (children.getD (j + 1) (.leaf 0 [])) = false) :
    ∃ vals' children', rotateRight vals children (j + 1) = (vals', children') ∧
      vals'.length = vals.length ∧
      Prepared c h' vals children (children.getD (j + 1) (.leaf 0 [])).elems
        vals' children' (j + 1) [] := by
  obtain ⟨pre, l, r, post, rfl, hpre⟩ := split2 children j (by omega)
  obtain ⟨vpre, v, vpost, rfl, hvpre, -, -⟩ := split1 vals j hi
  subst hpre
  rw [getD_app1 _ _ _ _ _ rfl] at hrec ⊢
  rw [getD_app _ _ _ _ rfl] at hdon
  have hs' := hs
  simp only [shapeAll_append, shapeAll_cons] at hs'
  obtain ⟨l', v', r', S, hcan, hsub, heq⟩ := rotR_local hc v hs'.2.1 hs'.2.2.1 hdon hrec
  exact ⟨_, _, heq vpre vpost pre post hvpre, by simp only [List.length_append, List.length_cons],
    (S.prepared hvpre hs hlen).2 hcan hsub⟩

/-- A merge of two children leaves the parent a value: it has two, or one of its two children can
spare one (so nothing is merged). Below the root the minimum occupancy sees to that, at the root the
pre-loop merge of `Tree.remove`. -/
def Spare (c : Cfg) (vals : List Nat) (children : List Node) : Prop :=
  2 ≤ vals.length ∨ c.canRemoveFrom (children.getD 0 (.leaf 0 [])) = true ∨
    c.canRemoveFrom (children.getD 1 (.leaf 0 [])) = true

theorem merge_keeps_one {c : Cfg} {vals : List Nat} {children : List Node} {j : Nat}
    (hj : j < vals.length)
    (hne : Spare c vals children)
    (h0 : c.canRemoveFrom (children.getD j (.leaf 0 [])) = false)
    (h1 : c.canRemoveFrom (children.getD (j + 1) (.leaf 0 [])) = false) : 2 ≤ vals.length := by
  by_cases h6 : 2 ≤ vals.length
  · exact h6
  · obtain rfl : j = 0 := by omega
    rcases hne with h5 | h5 | h5
    · exact h5
    · rw [h0] at h5; cases h5
    · rw [h1] at h5; cases h5

theorem mergeAt_spec {c : Cfg} (hc : c.Valid) {h' vals children i}
    (hlen : children.length = vals.length + 1) (hi : i < vals.length)
    (hs : ShapeAll c h' children) (hne : Spare c vals children)
    (hl0 : c.canRemoveFrom (children.getD i (.leaf 0 [])) = false)
    (hr0 : c.canRemoveFrom (children.getD (i + 1) (.leaf 0 [])) = false) :
    ∃ vals' children' f, mergeAt vals children i = (vals', children', f) ∧
      vals'.length + 1 = vals.length ∧
      Prepared c h' vals children
        ((children.getD i (.leaf 0 [])).elems ++
          vals.getD i 0 :: (children.getD (i + 1) (.leaf 0 [])).elems)
        vals' children' i [.free f] := by
  have h2 := merge_keeps_one hi hne hl0 hr0
  obtain ⟨pre, l, r, post, rfl, hpre⟩ := split2 children i (by omega)
  obtain ⟨vpre, v, vpost, rfl, hvpre, -, -⟩ := split1 vals i hi
  subst hpre
  rw [getD_app1 _ _ _ _ _ rfl] at hr0 ⊢
  rw [getD_app _ _ _ _ rfl] at hl0 ⊢
  rw [getD_app _ _ _ _ hvpre]
  simp only [shapeAll_append, shapeAll_cons] at hs
  simp only [List.length_append, List.length_cons] at hlen h2
  obtain ⟨m, hm, hcan, hel, hpg, heq⟩ := merge_local hc v hs.2.1 hs.2.2.1 hl0 hr0
  refine ⟨_, _, _, heq vpre vpost pre post hvpre,
    by simp only [List.length_append, List.length_cons]; omega,
    { len := ?_, one := ?_, idx := ?_, vle := ?_, vge := ?_
      shape := by simp only [shapeAll_append, shapeAll_cons]; exact ⟨hs.1, hm, hs.2.2.2⟩
      elems := ?elems
      can := by rw [getD_app _ _ _ _ rfl]; exact hcan
      sub := by rw [getD_app _ _ _ _ rfl, hel]; exact fun x hx => hx
      pages := by
        simpa using pagesL_frame pre post (xs := [l, r]) (ys := [m]) (F := [r.id])
          (by simpa using hpg) }⟩
  case elems =>
    rw [interleave_mid _ _ _ _ _ hvpre, interleave_mid _ _ _ _ _ hvpre, suff_cons, interleave_cons,
      hel]
    simp only [List.append_assoc, List.cons_append]
  all_goals
    simp only [List.length_append, List.length_cons]
    omega

theorem lift_frees {children children' : List Node} {i : Nat} {x : Node} {evs evs' : List Ev}
    (id : Nat) (hi : i < children'.length)
    (h1 : (pagesL children).Perm (frees evs ++ pagesL children'))
    (h2 : (Pg.pages (children'.getD i (.leaf 0 []))).Perm (frees evs' ++ Pg.pages x)) :
    (id :: pagesL children).Perm (frees (evs ++ evs') ++ (id :: pagesL (children'.set i x))) := by
  obtain ⟨pre, y, post, rfl, hpre, -, -⟩ := split1 children' i hi
  rw [getD_app _ _ _ _ hpre] at h2
  rw [set_app _ _ _ _ hpre]
  exact frees_trans ((h1.cons id).trans List.perm_middle.symm) (pages_frame id [] [] pre post h2)

theorem Prepared.step {c : Cfg} {h' vals children S vals' children' i' evs}
    (R : Prepared c h' vals children S vals' children' i' evs) {root : Bool} {id : Nat} {x : Node}
    {evs' : List Ev} (hx : Shape c false h' x)
    (hpg : (Pg.pages (children'.getD i' (.leaf 0 []))).Perm (frees evs' ++ Pg.pages x))
    (k2 : vals.length ≤ c.inodeMax) (k3 : root = true ∨ c.inodeMin ≤ vals'.length) :
    Shape c root (h' + 1) (.inode id vals' (children'.set i' x)) ∧
    (Pg.pages (.inode id vals children)).Perm
      (frees (evs ++ evs') ++ Pg.pages (.inode id vals' (children'.set i' x))) :=
  ⟨shape_inode_mk R.one (Nat.le_trans R.vle k2) k3 (by rw [List.length_set]; exact R.len)
      (shapeAll_set R.shape hx),
    by
      have hi : i' < children'.length := by
        have := R.len
        have := R.idx
        omega
      simp only [pages_inode]
      exact lift_frees id hi R.pages hpg⟩

theorem Prepared.cut {c : Cfg} {h' vals children S vals' children' i' evs}
    (R : Prepared c h' vals children S vals' children' i' evs) (x : Node) :
    interleave children vals =
      pref (children'.take i') (vals'.take i') ++ (children'.getD i' (.leaf 0 [])).elems ++
        suff (children'.drop (i' + 1)) (vals'.drop i') ∧
    interleave (children'.set i' x) vals' =
      pref (children'.take i') (vals'.take i') ++ x.elems ++
        suff (children'.drop (i' + 1)) (vals'.drop i') :=
  ⟨R.elems ▸ interleave_at R.idx R.len, interleave_set x R.idx R.len⟩

/-- the last two clauses (the first child stays the first, the last the last) are what
`removeExt_spec` needs -/
theorem fattenChild_spec {c : Cfg} (hc : c.Valid) {h' vals children i}
    (hlen : children.length = vals.length + 1) (hi : i ≤ vals.length) (hv : 1 ≤ vals.length)
    (hs : ShapeAll c h' children)
    (hrec : c.canRemoveFrom (children.getD i (.leaf 0 [])) = false)
    (hne : Spare c vals children) :
    ∃ vals' children' i' evs, fattenChild c vals children i = (vals', children', i', evs) ∧
      Prepared c h' vals children (children.getD i (.leaf 0 [])).elems vals' children' i' evs ∧
      (i = 0 → i' = 0) ∧ (i = vals.length → i' = vals'.length) := by
  fun_cases fattenChild c vals children i with
  | case1 h1 vals' children' e =>
    obtain ⟨j, rfl⟩ : ∃ j, i = j + 1 := ⟨i - 1, by omega⟩
    obtain ⟨_, _, e', hl, R⟩ := rotateRight_spec hc hlen hi hs h1.2 hrec
    cases e.symm.trans e'
    exact ⟨_, _, _, _, rfl, R, nofun, fun h => h.trans hl.symm⟩
  | case2 h1 h2 vals' children' e =>
    obtain ⟨_, _, e', hl, R⟩ := rotateLeft_spec hc hlen h2.1 hs h2.2 hrec
    cases e.symm.trans e'
    exact ⟨_, _, _, _, rfl, R, id, fun h => h.trans hl.symm⟩
  | case3 h1 h2 h3 vals' children' f e => -- last child: merge with the left sibling
    obtain ⟨j, rfl⟩ : ∃ j, i = j + 1 := ⟨i - 1, by omega⟩
    have hj : c.canRemoveFrom (children.getD j (.leaf 0 [])) = false :=
      eq_false_of_ne_true fun hh => h1 ⟨Nat.succ_pos _, hh⟩
    obtain ⟨_, _, _, e', hl, R⟩ := mergeAt_spec hc hlen hi hs hne hj hrec
    cases e.symm.trans e'
    exact ⟨_, _, _, _, rfl,
      R.mono (fun x hx => List.mem_append_right _ (List.mem_cons_of_mem _ hx)),
      nofun, fun _ => by omega⟩
  | case4 h1 h2 h3 vals' children' f e => -- merge with the right sibling
    have hi' : i < vals.length := by omega
    have hj : c.canRemoveFrom (children.getD (i + 1) (.leaf 0 [])) = false :=
      eq_false_of_ne_true fun hh => h2 ⟨hi', hh⟩
    obtain ⟨_, _, _, e', -, R⟩ := mergeAt_spec hc hlen hi' hs hne hrec hj
    cases e.symm.trans e'
    exact ⟨_, _, _, _, rfl, R.mono (fun x hx => List.mem_append_left _ hx), id,
      fun h => (h3 h).elim⟩

/-- Before a walk enters child `i`: nothing if the child can spare a value, `fatten_child` otherwise
(`remove_min` and `remove_max` spell this out for the first and the last child). -/
def prep (c : Cfg) (vals : List Nat) (children : List Node) (i : Nat) :
    List Nat × List Node × Nat × List Ev :=
  if c.canRemoveFrom (children.getD i (.leaf 0 [])) then (vals, children, i, [])
  else fattenChild c vals children i

theorem prep_spec {c : Cfg} (hc : c.Valid) {h' vals children i}
    (hlen : children.length = vals.length + 1) (hi : i ≤ vals.length) (hv : 1 ≤ vals.length)
    (hs : ShapeAll c h' children)
    (hne : Spare c vals children) :
    ∃ vals' children' i' evs, prep c vals children i = (vals', children', i', evs) ∧
      Prepared c h' vals children (children.getD i (.leaf 0 [])).elems vals' children' i' evs ∧
      (i = 0 → i' = 0) ∧ (i = vals.length → i' = vals'.length) := by
  fun_cases prep c vals children i <;> rename_i g
  · exact ⟨_, _, _, _, rfl,
      { len := hlen, one := hv, idx := hi, shape := hs, elems := rfl, can := g,
        sub := fun _ hx => hx, vle := Nat.le_refl _, vge := Nat.le_succ _, pages := .refl _ },
      id, id⟩
  · exact fattenChild_spec hc hlen hi hv hs (eq_false_of_ne_true g) hne

/-- `v` in front of a list (`remove_min`) or behind it (`remove_max`) -/
def put (last : Bool) (v : Nat) (l : List Nat) : List Nat := if last then l ++ [v] else v :: l

theorem exists_put (last : Bool) {l : List Nat} (h : 0 < l.length) : ∃ v l', l = put last v l' := by
  cases last with
  | false =>
    cases l with
    | nil => simp at h
    | cons v l' => exact ⟨v, l', rfl⟩
  | true => obtain ⟨l', v, rfl⟩ := snoc_of_pos l h; exact ⟨v, l', rfl⟩

/-- go on with `f` in child `i'` of the prepared parent -/
def extStep (f : Node → Node × Nat × List Ev) (id : Nat) :
    List Nat × List Node × Nat × List Ev → Node × Nat × List Ev
  | (vals', children', i', evs) =>
    let r := f (children'.getD i' (.leaf 0 []))
    (.inode id vals' (children'.set i' r.1), r.2.1, evs ++ r.2.2)

/-- `remove_min` and `remove_max` are one walk `f`, known by its equations at a leaf and at an
internal node -/
theorem removeExt_spec {c : Cfg} (hc : c.Valid) (last : Bool)
    (f : Nat → Node → Node × Nat × List Ev)
    (hleaf : ∀ fuel id v vs, f (fuel + 1) (.leaf id (put last v vs)) = (.leaf id vs, v, []))
    (hinode : ∀ fuel id v vs children, f (fuel + 1) (.inode id (v :: vs) children) =
      extStep (f fuel) id (prep c (v :: vs) children (if last then vs.length + 1 else 0))) :
    ∀ {fuel h rt n}, Shape c rt h n → h ≤ fuel → rt = false → c.canRemoveFrom n = true →
      Shape c false h (f fuel n).1 ∧ n.elems = put last (f fuel n).2.1 (f fuel n).1.elems ∧
      (Pg.pages n).Perm (frees (f fuel n).2.2 ++ Pg.pages (f fuel n).1) := by
  intro fuel h rt n H hf
  refine walk_ind (fun fuel rt id vs H => ?_)
    (fun fuel rt h' id vals children H _ h4 h5 ih => ?_) H hf <;> rintro rfl hcan
  · obtain ⟨v, vs, rfl⟩ := exists_put last (l := vs) (by have := (can_leaf ..).1 hcan; omega)
    rw [hleaf]
    exact ⟨leaf_lose H (.inr hcan) (by cases last <;> simp [put]), rfl, by simp⟩
  · obtain ⟨h1, h2, -, -, -⟩ := shape_inode_succ H
    rw [can_inode] at hcan
    have hif := (inode_fit hc).2.2
    obtain ⟨v, vs, rfl⟩ : ∃ v vs, vals = v :: vs := by
      cases vals with
      | nil => simp at h1
      | cons v vs => exact ⟨v, vs, rfl⟩
    obtain ⟨vals', children', i', evs, hp, R, kf, kl⟩ :=
      prep_spec hc h4 (i := if last then vs.length + 1 else 0) (by split <;> simp) h1 h5
        (Or.inl (by omega))
    have k2 := R.len
    have k3 := R.vge
    have k4 := R.idx
    obtain ⟨a, b, d⟩ := ih _ (shapeAll_getD R.shape (by omega)) rfl R.can
    obtain ⟨s1, s2⟩ := R.step (root := false) (id := id) a d h2 (Or.inr (by omega))
    obtain ⟨e1, e2⟩ := R.cut (f fuel (children'.getD i' (.leaf 0 []))).1
    rw [hinode, hp]
    refine ⟨s1, ?_, s2⟩
    simp only [extStep, elems_inode]
    rw [e1, e2, b]
    cases last with
    | false => obtain rfl : i' = 0 := kf rfl; simp [put, pref]
    | true => obtain rfl : i' = vals'.length := kl rfl; simp [put, ← k2]

theorem removeMin_spec {c : Cfg} (hc : c.Valid) : ∀ fuel h n, Shape c false h n → h ≤ fuel →
    c.canRemoveFrom n = true →
    Shape c false h (removeMin c fuel n).1 ∧
    n.elems = (removeMin c fuel n).2.1 :: (removeMin c fuel n).1.elems ∧
    (Pg.pages n).Perm (frees (removeMin c fuel n).2.2 ++ Pg.pages (removeMin c fuel n).1) := by
  intro fuel h n H hf
  refine removeExt_spec hc false (removeMin c) (fun _ _ _ _ => rfl)
    (fun fuel id v vs children => ?_) H hf rfl
  -- at `i = 0` `fattenChild` cannot rotate right and is not at the last child: `prep` is the three
  -- cases of `removeMin`; `getD_eq_getElem?_getD` is kept out because it rewrites the `getD` that
  -- `h0`, `h1` are stated with
  by_cases h0 : c.canRemoveFrom (children.getD 0 (.leaf 0 [])) = true <;>
    by_cases h1 : c.canRemoveFrom (children.getD 1 (.leaf 0 [])) = true <;>
    simp [-List.getD_eq_getElem?_getD, removeMin, prep, fattenChild, extStep, h0, h1]

theorem removeMax_spec {c : Cfg} (hc : c.Valid) : ∀ fuel h n, Shape c false h n → h ≤ fuel →
    c.canRemoveFrom n = true →
    Shape c false h (removeMax c fuel n).1 ∧
    n.elems = (removeMax c fuel n).1.elems ++ [(removeMax c fuel n).2.1] ∧
    (Pg.pages n).Perm (frees (removeMax c fuel n).2.2 ++ Pg.pages (removeMax c fuel n).1) := by
  intro fuel h n H hf
  refine removeExt_spec hc true (removeMax c) (fun _ _ _ _ => by simp [removeMax, put])
    (fun fuel id v vs children => ?_) H hf rfl
  -- at the last child `fattenChild` cannot rotate left and merges with the left sibling: the three
  -- cases of `removeMax`
  by_cases h0 : c.canRemoveFrom (children.getD (vs.length + 1) (.leaf 0 [])) = true <;>
    by_cases h1 : c.canRemoveFrom (children.getD vs.length (.leaf 0 [])) = true <;>
    simp [-List.getD_eq_getElem?_getD, removeMax, prep, fattenChild, extStep, h0, h1]

/-- The path of a removal result is at place `k` of the new element list, or (`incr`) one place
before it. The path is valid, except in a root that has become an empty leaf. -/
def Next (root : Bool) (r : RemOut) (k : Nat) : Prop :=
  (ValidIter r.node r.path ∨ root = true ∧ r.node.elems = []) ∧
    It.rank r.node r.path + (if r.incr = true then 1 else 0) = k

theorem Next.sound {c : Cfg} (hm : 1 ≤ c.leafMin) {h rt k} {r : RemOut} (hs : Shape c rt h r.node)
    (hne : r.node.elems ≠ []) (H : Next rt r k) :
    It.pos r.node (if r.incr = true then increment r.node r.path else some r.path) = k ∧
    ∀ q, (if r.incr = true then increment r.node r.path else some r.path) = some q →
      ValidIter r.node q := by
  obtain ⟨hv | ⟨-, h0⟩, hr⟩ := H
  · rw [← hr]
    split
    · exact It.inc_rank c hm hs _ hv
    · exact ⟨rfl, fun q hq => by cases hq; exact hv⟩
  · exact absurd h0 hne

theorem Next.down {r : RemOut} {k : Nat} {vals' : List Nat} {children' : List Node} {i' : Nat}
    (hi : i' < children'.length) (H : Next false r k) {root : Bool} {id : Nat} {evs : List Ev}
    {k' : Nat} :
    Next root ⟨.inode id vals' (children'.set i' r.node), r.out, i' :: r.path, r.incr, evs, k'⟩
      ((pref (children'.take i') (vals'.take i')).length + k) := by
  obtain ⟨hv | ⟨h0, -⟩, hr⟩ := H
  · have hq : r.path ≠ [] := fun h0 => It.vi_nil _ (h0 ▸ hv)
    refine ⟨Or.inl ((It.vi_cons _ _ _ hq).2 ⟨rfl, ?_⟩), ?_⟩
    · rw [Node.child, Node.children, getD_set_self _ _ _ _ hi]; exact hv
    · simp only [It.rank_inode, List.take_set_of_le (Nat.le_refl _), getD_set_self _ _ _ _ hi]
      omega
  · cases h0

theorem mem_child_of_mem {cs : List Node} {vs : List Nat} {i e : Nat}
    (hlen : cs.length = vs.length + 1)
    (hi : i ≤ vs.length) (hp : (interleave cs vs).Pairwise (· < ·))
    (hlo : ∀ v ∈ vs.take i, v < e) (hhi : ∀ v ∈ vs.drop i, e < v) :
    e ∈ interleave cs vs → e ∈ (cs.getD i (.leaf 0 [])).elems := by
  rw [interleave_at hi hlen] at hp ⊢
  exact (Ins.bracket (by simp; omega) hp hlo hhi).1.1

/-- go on with the search for `e` in child `i'` of the prepared parent -/
def descStep (c : Cfg) (fuel id : Nat) : List Nat × List Node × Nat × List Ev → Nat → Nat → RemOut
  | (vals', children', i', evs), k, e =>
    let r := removeNode c fuel (children'.getD i' (.leaf 0 [])) e
    ⟨.inode id vals' (children'.set i' r.node), r.out, i' :: r.path, r.incr, evs ++ r.evs,
      k + r.cmps⟩

theorem removeNode_inode (c : Cfg) (fuel id vals children e) {i eq k}
    (hnf : nodeFind (.inode id vals children) e = (i, eq, k)) :
    removeNode c (fuel + 1) (.inode id vals children) e =
      if eq = true then
        match replaceValue c fuel id vals children i with
        | some (n', out, fl, ev) => ⟨n', some out, [i], fl, ev, k⟩
        | none =>
          descStep c fuel id ((mergeAt vals children i).1, (mergeAt vals children i).2.1, i,
            [.free (mergeAt vals children i).2.2]) k e
      else descStep c fuel id (prep c vals children i) k e := by
  simp only [removeNode, hnf, descStep, prep]
  cases eq
  · by_cases g : c.canRemoveFrom (children.getD i (.leaf 0 [])) = true
    · rw [if_pos g, if_pos g]; rfl
    · rw [if_neg g, if_neg g]; rfl
  · rfl

theorem removeNode_leaf (c : Cfg) (fuel id vals e) {i eq k}
    (hnf : nodeFind (.leaf id vals) e = (i, eq, k)) :
    removeNode c (fuel + 1) (.leaf id vals) e =
      if eq = false then ⟨.leaf id vals, none, [], false, [], k⟩
      else if i = (vals.eraseIdx i).length ∧ (vals.eraseIdx i).length > 0 then
        ⟨.leaf id (vals.eraseIdx i), some (vals.getD i 0), [i - 1], true, [], k⟩
      else ⟨.leaf id (vals.eraseIdx i), some (vals.getD i 0), [i], false, [], k⟩ := by
  simp only [removeNode, hnf]
  cases eq <;> rfl

def Post (c : Cfg) (root : Bool) (h : Nat) (n : Node) (e : Nat) (r : RemOut) : Prop :=
  Shape c root h r.node ∧ (Pg.pages n).Perm (frees r.evs ++ Pg.pages r.node) ∧
  (e ∉ n.elems ∧ r.node.elems = n.elems ∧ r.out = none ∨
    ∃ A B, n.elems = A ++ e :: B ∧ r.node.elems = A ++ B ∧ r.out = some e ∧ Next root r A.length)

/-- the path `[i]` is left at an in-order neighbour `m` of the removed `v`: its predecessor (`fl`:
the path then has to be incremented) or its successor -/
theorem neighbour_post {c : Cfg} {root : Bool} {h : Nat} {n N : Node} {v m : Nat} {X Y : List Nat}
    {evs : List Ev} {i : Nat} (fl : Bool) (k : Nat)
    (hold : n.elems = if fl = true then X ++ m :: v :: Y else X ++ v :: m :: Y)
    (hp : n.elems.Pairwise (· < ·)) (hN : Shape c root h N) (hE : N.elems = X ++ m :: Y)
    (hpg : (Pg.pages n).Perm (frees evs ++ Pg.pages N))
    (hd : deref N (some [i]) = some m) :
    Post c root h n v ⟨N, some v, [i], fl, evs, k⟩ := by
  obtain ⟨A, B, ho, hn, hl⟩ : ∃ A B, n.elems = A ++ v :: B ∧ N.elems = A ++ B ∧
      A.length = X.length + if fl = true then 1 else 0 := by
    cases fl
    · exact ⟨X, m :: Y, by simpa using hold, hE, rfl⟩
    · exact ⟨X ++ [m], Y, by simpa using hold, by simpa using hE, by simp⟩
  rw [ho] at hp
  have hv := It.vi_of_deref hd
  refine ⟨hN, hpg, .inr ⟨A, B, ho, hn, rfl, Or.inl hv, ?_⟩⟩
  -- the path points at `m`, which stands behind `X`
  have hnd : (X ++ m :: Y).Nodup :=
    hE ▸ hn ▸ nodup_of_sorted (hp.sublist ((List.sublist_cons_self v B).append_left A))
  have hr : X.length = It.rank N [i] :=
    (List.getElem?_inj (i := X.length) (by simp) hnd).1
      ((getElem?_app X m Y rfl).trans (hd.symm.trans (hE ▸ It.rank_spec c hN _ hv)))
  rw [← hr, hl]

theorem removeNode_leaf_spec {c : Cfg} (hc : c.Valid) {root h fuel id vals e}
    (H : Shape c root h (.leaf id vals)) (hp : vals.Pairwise (· < ·))
    (hpre : root = true ∨ c.canRemoveFrom (.leaf id vals) = true) :
    Post c root h (.leaf id vals) e (removeNode c (fuel + 1) (.leaf id vals) e) := by
  rcases hnf : nodeFind (.leaf id vals) e with ⟨i, eq, k⟩
  rw [removeNode_leaf _ _ _ _ _ hnf]
  cases eq with
  | false =>
    obtain ⟨pre, post, hv, -, hlo, hhi⟩ := nodeFind_miss hnf hp
    rw [if_pos rfl]
    have hne : e ∉ vals := by
      rw [show vals = pre ++ post from hv]
      intro he
      rcases List.mem_append.1 he with h2 | h2
      · exact Nat.lt_irrefl e (hlo e h2)
      · exact Nat.lt_irrefl e (hhi e h2)
    exact ⟨H, by simp, .inl ⟨hne, rfl, rfl⟩⟩
  | true =>
    obtain ⟨pre, post, hv, hi⟩ := nodeFind_hit hnf hp
    rw [if_neg nofun]
    obtain rfl : vals = pre ++ e :: post := hv
    rw [getD_app _ _ _ _ hi, eraseIdx_app _ _ _ hi]
    have hsh : Shape c root h (.leaf id (pre ++ post)) := leaf_lose H hpre (by simp +arith)
    subst hi
    split
    · rename_i h2
      obtain rfl : post = [] := by simpa using h2.1
      obtain ⟨pre', m, rfl⟩ := snoc_of_pos pre (by simpa using h2.2)
      exact neighbour_post true k (X := pre') (m := m) (Y := []) (by simp) (by simpa using hp) hsh
        (by simp) (by simp) (by rw [It.deref_single]; simp [Node.vals])
    · rename_i h2
      cases post with
      | cons y post =>
        exact neighbour_post false k (X := pre) (m := y) (Y := post) (by simp) (by simpa using hp)
          hsh (by simp) (by simp) (by rw [It.deref_single]; simp [Node.vals])
      | nil =>
        obtain rfl : pre = [] := by
          apply List.eq_nil_of_length_eq_zero
          simp at h2 ⊢
          omega
        refine ⟨hsh, by simp,
          .inr ⟨[], [], rfl, rfl, rfl, Or.inr ⟨hpre.resolve_right fun h => ?_, rfl⟩, rfl⟩⟩
        have hlm := (leaf_fit hc).2.2
        simp at h
        omega

theorem desc_spec {c : Cfg} {fuel h' e}
    (ih : ∀ n, Shape c false h' n → n.elems.Pairwise (· < ·) → c.canRemoveFrom n = true →
      Post c false h' n e (removeNode c fuel n e))
    {root id vals children S vals' children' i' evs k}
    (R : Prepared c h' vals children S vals' children' i' evs)
    (k2 : vals.length ≤ c.inodeMax) (k3 : root = true ∨ c.inodeMin ≤ vals'.length)
    (hp : (interleave children vals).Pairwise (· < ·))
    (only : e ∈ interleave children vals → e ∈ S) :
    Post c root (h' + 1) (.inode id vals children) e
      (descStep c fuel id (vals', children', i', evs) k e) := by
  obtain ⟨e1, e2⟩ := R.cut (removeNode c fuel (children'.getD i' (.leaf 0 [])) e).node
  rw [e1] at hp only
  have hpa := List.pairwise_append.1 (List.pairwise_append.1 hp).1
  have hi' : i' < children'.length := by
    have := R.len
    have := R.idx
    omega
  obtain ⟨a, g, d⟩ := ih _ (shapeAll_getD R.shape hi') hpa.2.1 R.can
  obtain ⟨s1, s2⟩ := R.step (id := id) a g k2 k3
  simp only [Post, descStep, elems_inode]
  rw [e1, e2]
  refine ⟨s1, s2, ?_⟩
  rcases d with ⟨hne, hel, hout⟩ | ⟨A, B, hAB, hel, hout, nx⟩
  · exact .inl ⟨fun h => hne (R.sub _ (only h)), by rw [hel], hout⟩
  · refine .inr ⟨pref (children'.take i') (vals'.take i') ++ A,
      B ++ suff (children'.drop (i' + 1)) (vals'.drop i'),
      by rw [hAB]; simp, by rw [hel]; simp, hout, ?_⟩
    rw [List.length_append]
    exact Next.down hi' nx

theorem minVals_eq {c : Cfg} {h l r} (hl : Shape c false h l) (hr : Shape c false h r) :
    c.minVals l = c.minVals r := by
  have : l.isLeaf = r.isLeaf := Bool.eq_iff_iff.2 ((shape_kind hl).trans (shape_kind hr).symm)
  simp only [Cfg.minVals, Cfg.maxVals, this]

theorem fromLeft_can {c : Cfg} {h' l r i} (hl : Shape c false h' l) (hr : Shape c false h' r)
    (hnb : ¬ ((!c.canRemoveFrom l && !c.canRemoveFrom r) = true)) :
    (fromLeft l r i = true → c.canRemoveFrom l = true) ∧
    (¬ fromLeft l r i = true → c.canRemoveFrom r = true) := by
  have h3 := minVals_eq hl hr
  simp only [Cfg.canRemoveFrom, Bool.and_eq_true, Bool.not_eq_true', decide_eq_false_iff_not,
    decide_eq_true_eq] at hnb ⊢
  fun_cases fromLeft l r i <;> simp <;> omega

theorem replaceValue_spec {c : Cfg} (hc : c.Valid) {root h' fuel id vals children i e}
    (H : Shape c root (h' + 1) (.inode id vals children)) (hf : h' ≤ fuel)
    (hp : (interleave children vals).Pairwise (· < ·))
    (hi : i < vals.length) (hv : vals.getD i 0 = e)
    (hnb : ¬ ((!c.canRemoveFrom (children.getD i (.leaf 0 [])) &&
      !c.canRemoveFrom (children.getD (i + 1) (.leaf 0 []))) = true)) :
    ∃ p, replaceValue c fuel id vals children i = some p ∧
      ∀ k, Post c root (h' + 1) (.inode id vals children) e
        ⟨p.1, some p.2.1, [i], p.2.2.1, p.2.2.2, k⟩ := by
  obtain ⟨h'', hh, h1, h2, h3, h4, h5⟩ := shape_inode.1 H
  obtain rfl : h'' = h' := by omega
  rw [replaceValue_eq, if_neg hnb]
  obtain ⟨pre, l, r, post, rfl, hpre⟩ := split2 children i (by omega)
  obtain ⟨vpre, v, vpost, rfl, hvpre, -, -⟩ := split1 vals i hi
  subst hpre
  rw [getD_app _ _ _ _ hvpre] at hv
  subst hv
  rw [getD_app _ _ _ _ rfl, getD_app1 _ _ _ _ _ rfl] at hnb ⊢
  simp only [shapeAll_append, shapeAll_cons] at h5
  obtain ⟨hs1, hl, hr, hs2⟩ := h5
  have FL := fromLeft_can (i := pre.length) hl hr hnb
  have hsh : ∀ vals' children', vals'.length = (vpre ++ v :: vpost).length →
      children'.length = (pre ++ l :: r :: post).length → ShapeAll c h'' children' →
      Shape c root (h'' + 1) (.inode id vals' children') :=
    fun vals' children' e1 e2 e3 =>
      shape_inode_mk (e1 ▸ h1) (e1 ▸ h2) (e1 ▸ h3) (by rw [e1, e2]; exact h4) e3
  have hel : ∀ (m : Nat) (l' r' : Node),
      (Node.inode id (vpre ++ m :: vpost) (pre ++ l' :: r' :: post)).elems =
        (pref pre vpre ++ l'.elems) ++ m :: (r'.elems ++ suff post vpost) := fun m l' r' => by
    rw [elems_inode, interleave_mid _ _ _ _ _ hvpre, suff_cons, interleave_cons]
  split <;> rename_i g <;> refine ⟨_, rfl, fun k => ?_⟩
  · obtain ⟨M1, M2, M3⟩ := removeMax_spec hc fuel h'' l hl hf (FL.1 g)
    rw [set_app _ _ _ _ hvpre, set_app _ _ _ _ rfl, getD_app _ _ _ _ hvpre]
    exact neighbour_post true k (by rw [hel, M2]; simp) hp
      (hsh _ _ (by simp) (by simp)
        (by simp only [shapeAll_append, shapeAll_cons]; exact ⟨hs1, M1, hr, hs2⟩))
      (hel _ _ _) (pages_frame id _ _ pre (r :: post) M3)
      (by rw [It.deref_single]; exact getElem?_app _ _ _ hvpre)
  · obtain ⟨M1, M2, M3⟩ := removeMin_spec hc fuel h'' r hr hf (FL.2 g)
    rw [set_app _ _ _ _ hvpre, set_app1 _ _ _ _ _ rfl, getD_app _ _ _ _ hvpre]
    exact neighbour_post false k (by rw [hel, M2]; simp) hp
      (hsh _ _ (by simp) (by simp)
        (by simp only [shapeAll_append, shapeAll_cons]; exact ⟨hs1, hl, M1, hs2⟩))
      (hel _ _ _)
      (by simpa using pages_frame id (vpre ++ v :: vpost)
            (vpre ++ (removeMin c fuel r).2.1 :: vpost) (pre ++ [l]) post M3)
      (by rw [It.deref_single]; exact getElem?_app _ _ _ hvpre)

def RootOK (c : Cfg) : Node → Prop
  | .leaf _ _ => True
  | .inode _ vals children => Spare c vals children

theorem removeNode_spec {c : Cfg} (hc : c.Valid) {fuel h root n} (e : Nat) (H : Shape c root h n)
    (hf : h ≤ fuel) :
    n.elems.Pairwise (· < ·) → ((root = true ∧ RootOK c n) ∨ c.canRemoveFrom n = true) →
    Post c root h n e (removeNode c fuel n e) := by
  refine walk_ind (fun fuel root id vals H => ?_)
    (fun fuel root h' id vals children H hf h4 h5 ih => ?_) H hf <;> intro hp hpre
  · exact removeNode_leaf_spec hc H hp (hpre.imp And.left fun h => h)
  · obtain ⟨h1, h2, -, -, -⟩ := shape_inode_succ H
    have hif := inode_fit hc
    simp only [Post, elems_inode] at hp ⊢
    have ih' : ∀ n, Shape c false h' n → n.elems.Pairwise (· < ·) → c.canRemoveFrom n = true →
        Post c false h' n e (removeNode c fuel n e) :=
      fun n a b d => ih n a b (Or.inr d)
    have hne : Spare c vals children := by
      rcases hpre with h6 | h6
      · exact h6.2
      · simp at h6
        exact Or.inl (by omega)
    have hlow : ∀ m, vals.length ≤ m + 1 → root = true ∨ c.inodeMin ≤ m := by
      intro m hm
      rcases hpre with h6 | h6
      · exact Or.inl h6.1
      · simp at h6
        exact Or.inr (by omega)
    have F := nodeFind_spec (.inode id vals children) e
      (List.Pairwise.sublist (vals_sublist children vals (by omega)) hp)
    rcases hnf : nodeFind (.inode id vals children) e with ⟨i, eq, k⟩
    simp only [hnf, Node.vals] at F
    rw [removeNode_inode _ _ _ _ _ _ hnf]
    cases eq with
    | true =>
      rw [if_pos rfl]
      obtain ⟨f1, f2⟩ := F.1 rfl
      by_cases hnb : (!c.canRemoveFrom (children.getD i (.leaf 0 [])) &&
          !c.canRemoveFrom (children.getD (i + 1) (.leaf 0 []))) = true
      · have hnone : replaceValue c fuel id vals children i = none := by
          rw [replaceValue_eq, if_pos hnb]
        simp only [Bool.and_eq_true, Bool.not_eq_true'] at hnb
        obtain ⟨vals', children', f, em, -, R⟩ := mergeAt_spec hc h4 f1 h5 hne hnb.1 hnb.2
        simp only [hnone, em]
        exact desc_spec ih' R h2 (hlow _ R.vge) hp
          (fun _ => by rw [f2]; simp)
      · obtain ⟨p, hpv, RS⟩ := replaceValue_spec hc H hf hp f1 f2 hnb
        rw [hpv]
        exact RS k
    | false =>
      rw [if_neg nofun]
      obtain ⟨f1, f2, f3⟩ := F.2 rfl
      obtain ⟨vals', children', i', evs, ep, R, -, -⟩ := prep_spec hc h4 f1 h1 h5 hne
      rw [ep]
      exact desc_spec ih' R h2 (hlow _ R.vge) hp (mem_child_of_mem h4 f1 hp f2 f3)

theorem rootOK_of_can {c : Cfg} (hc : c.Valid) {n} (h : c.canRemoveFrom n = true) : RootOK c n := by
  cases n with
  | leaf id vs => trivial
  | inode id vs cs =>
    have := inode_fit hc
    simp at h
    exact Or.inl (by omega)

theorem preRoot_spec {c : Cfg} (hc : c.Valid) {h n} (H : Shape c true h n) :
    ∃ h2, Shape c true h2 (preRoot c n).1 ∧ (preRoot c n).1.elems = n.elems ∧
      RootOK c (preRoot c n).1 ∧
      (Pg.pages n).Perm (frees (preRoot c n).2 ++ Pg.pages (preRoot c n).1) := by
  fun_cases preRoot c n
  · -- one value between two minimal children: merged, the tree loses a level
    rename_i id v l r g
    obtain ⟨h', rfl, -, -, -, -, h5⟩ := shape_inode.1 H
    simp only [Bool.and_eq_true, Bool.not_eq_true'] at g
    simp only [shapeAll_cons] at h5
    obtain ⟨m, hm, hcan, hel, hpg, heq⟩ := merge_local hc v h5.1 h5.2.1 g.1 g.2
    rw [show mergeAt [v] [l, r] 0 = ([], [m], r.id) from heq [] [] [] [] rfl]
    exact ⟨h', shape_root_of hm, by simp [hel], rootOK_of_can hc hcan, by simpa using hpg.cons id⟩
  · -- one value, but a child can spare one
    rename_i id v l r g
    refine ⟨h, H, rfl, ?_, by simp⟩
    simp only [Bool.and_eq_true, Bool.not_eq_true', not_and, Bool.not_eq_false] at g
    by_cases h1 : c.canRemoveFrom l = true
    · exact Or.inr (Or.inl h1)
    · exact Or.inr (Or.inr (g (eq_false_of_ne_true h1)))
  · -- no merge: a leaf, or an internal node that is not one value between two children, so it has
    -- two values
    rename_i hne
    refine ⟨h, H, rfl, ?_, by simp⟩
    cases n with
    | leaf id vs => trivial
    | inode id vals children =>
      obtain ⟨h', rfl, h1, -, -, h4, -⟩ := shape_inode.1 H
      refine Or.inl (Nat.lt_of_le_of_ne h1 fun h2 => ?_)
      obtain ⟨v, rfl⟩ := List.length_eq_one_iff.1 h2.symm
      match children, h4 with
      | [l, r], _ => exact hne id v l r rfl

theorem find?_gt_split {A B : List Nat} {e : Nat} (hp : (A ++ e :: B).Pairwise (· < ·)) :
    (A ++ e :: B).find? (e < ·) = B.head? := by
  obtain ⟨-, h2, h3⟩ := List.pairwise_append.1 hp
  have hA : A.find? (e < ·) = none :=
    List.find?_eq_none.2 fun a ha => by
      have := h3 a ha e (by simp)
      simp
      omega
  rw [List.find?_append, hA, Option.none_or, List.find?_cons_of_neg (by simp)]
  cases B with
  | nil => rfl
  | cons b B =>
    exact List.find?_cons_of_pos (by simpa using (List.pairwise_cons.1 h2).1 b (by simp))

theorem erase_at (X Y : List Nat) (e : Nat) (hnd : (X ++ e :: Y).Nodup) :
    (X ++ e :: Y).erase e = X ++ Y := by
  have hX : e ∉ X := fun h => (List.nodup_append.1 hnd).2.2 e h e (by simp) rfl
  rw [List.erase_append_right _ hX, List.erase_cons_head]

theorem remove_main {c : Cfg} (hc : c.Valid) (t : Tree) (e : Nat) (h : WF c t)
    {t' st out next evs cmps} (hr : t.remove c e = (t', st, out, next, evs, cmps)) :
    WF c t' ∧ t'.root.elems = t.root.elems.erase e ∧ t'.treeId = t.treeId ∧
    (Pg.pages t.root).Perm (frees evs ++ Pg.pages t'.root) ∧
    if e ∈ t.root.elems then
      st = .success ∧ out = some e ∧ t'.size = t.size - 1 ∧
      (∀ q, next = some q → ValidIter t'.root q) ∧
      deref t'.root next = t.root.elems.find? (e < ·) ∧
      (next = none ↔ t.root.elems.find? (e < ·) = none)
    else st = .notFound ∧ out = none ∧ next = none ∧ t'.size = t.size := by
  obtain ⟨h2, a, b, d, g⟩ := preRoot_spec hc h.shape
  obtain ⟨p1, p4, p⟩ := removeNode_spec hc (fuel := height (preRoot c t.root).1 + 1) e a
    (by rw [shape_height a]; omega) (by rw [b]; exact h.sorted) (Or.inl ⟨rfl, d⟩)
  rw [b] at p
  rw [remove_eq] at hr
  generalize removeNode c _ _ e = r at p1 p4 p hr
  have hs : Shape c true (height r.node) r.node := by rw [shape_height p1]; exact p1
  have hpg := frees_trans g p4
  have hso := h.sorted
  have hsz := h.size
  rcases p with ⟨he, p2, p3⟩ | ⟨A, B, hAB, p2, p3, nx⟩
  · rw [if_neg he]
    simp only [removeResult, p3] at hr
    cases hr
    exact ⟨⟨hs, p2 ▸ hso, p2 ▸ hsz⟩, by rw [p2, List.erase_of_not_mem he],
      rfl, hpg, rfl, rfl, rfl, rfl⟩
  · rw [hAB] at hso hsz ⊢
    rw [if_pos (by simp)]
    simp only [removeResult, p3] at hr
    cases hr
    have hlen : t.size - 1 = (A ++ B).length := by rw [hsz]; simp
    refine ⟨⟨hs, p2 ▸ hso.sublist ((List.sublist_cons_self e B).append_left A), p2 ▸ hlen⟩,
      by rw [p2, erase_at A B e (nodup_of_sorted hso)], rfl, hpg, rfl, rfl, rfl, ?_⟩
    -- all three clauses from: valid or the end, and pointing at what now stands at `e`'s place
    have key : ∀ it : Iter, (∀ q, it = some q → ValidIter r.node q) →
        deref r.node it = r.node.elems[A.length]? →
        (∀ q, it = some q → ValidIter r.node q) ∧
          deref r.node it = (A ++ e :: B).find? (e < ·) ∧
          (it = none ↔ (A ++ e :: B).find? (e < ·) = none) := by
      intro it hv hd
      rw [p2, List.getElem?_append_right (Nat.le_refl _), Nat.sub_self, ← List.head?_eq_getElem?,
        ← find?_gt_split hso] at hd
      exact ⟨hv, hd, hd ▸ It.end_iff_deref hv⟩
    by_cases hz : t.size - 1 = 0
    · rw [if_pos hz]
      have hnil : r.node.elems = [] :=
        List.eq_nil_of_length_eq_zero (by rw [p2, ← hlen]; exact hz)
      exact key none nofun (by rw [hnil]; rfl)
    · rw [if_neg hz]
      obtain ⟨n1, n2⟩ := nx.sound hc.leafMin_pos hs fun h0 => hz (by rw [hlen, ← p2, h0]; rfl)
      exact key _ n2 (by rw [It.deref_pos c hs n2, n1])

theorem remove_pages (c : Cfg) (hc : c.Valid) (a : AllocSt) (t : Tree) (e : Nat) (h : WF c t)
    (hp : PagesOK a t) :
    ∃ live, applyEvs (Tree.pages t) (t.remove c e).2.2.2.2.1 = some live ∧
      live.Perm (Tree.pages (t.remove c e).1) ∧ PagesOK a (t.remove c e).1 := by
  have hf := remove_evs c t e
  rcases hr : t.remove c e with ⟨t', st, out, next, evs, cmps⟩
  obtain ⟨-, -, hid, hpg, -⟩ := remove_main hc t e h hr
  exact frees_finish (hr ▸ hf) hpg hid hp

end Zix.BTree.Rem

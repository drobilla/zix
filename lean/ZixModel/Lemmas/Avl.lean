import ZixModel.Model.Avl
import ZixModel.Spec.Avl
/-! Lemmas for C06 (AVL tree model).  Balance is handled through `BalH`, which carries the height as
an index, so that a rotation is justified by naming the constructors of the result.  Each operation
has one specification: what it does to the in-order list, and `Grown` or `Shrunk`, which speak of
balance and height only and hold whatever the keys are. -/
namespace Zix.Avl
open T

theorem height_eq_zero {t : T} : t.height = 0 ↔ t = .nil := by
  cases t <;> simp [T.height]

theorem size_eq_length (t : T) : t.size = t.inorder.length := by
  induction t with
  | nil => rfl
  | node l i k b r ihl ihr => simp [T.size, T.inorder, ihl, ihr]; omega

open Zix.C06

/-- `BalH t n`: `t` is `Balanced` and has height `n`.  A node is left-heavy, even or right-heavy;
its stored balance factor says which. -/
inductive BalH : T → Nat → Prop
  | nil : BalH .nil 0
  | leftHeavy {l r : T} {i : Nat} {k : Int} {n : Nat} :
    BalH l (n + 1) → BalH r n → BalH (node l i k (-1) r) (n + 2)
  | even {l r : T} {i : Nat} {k : Int} {n : Nat} :
    BalH l n → BalH r n → BalH (node l i k 0 r) (n + 1)
  | rightHeavy {l r : T} {i : Nat} {k : Int} {n : Nat} :
    BalH l n → BalH r (n + 1) → BalH (node l i k 1 r) (n + 2)

namespace BalH
variable {l l' r r' : T} {i i' : Nat} {k k' b : Int} {t : T} {n : Nat}

theorem height_eq (h : BalH t n) : t.height = n := by
  induction h with
  | nil => rfl
  | leftHeavy _ _ ihl ihr => rw [T.height, ihl, ihr, Nat.max_eq_left (Nat.le_succ _)]
  | even _ _ ihl ihr => rw [T.height, ihl, ihr, Nat.max_self]
  | rightHeavy _ _ ihl ihr => rw [T.height, ihl, ihr, Nat.max_eq_right (Nat.le_succ _)]

theorem self (h : BalH t n) : BalH t t.height := h.height_eq ▸ h

theorem balanced (h : BalH t n) : Balanced t := by
  induction h with
  | nil => trivial
  | _ hl hr ihl ihr =>
    exact ⟨ihl, ihr, by rw [hl.height_eq, hr.height_eq]; omega, by decide, by decide⟩

theorem of_balanced : ∀ {t : T}, Balanced t → BalH t t.height
  | .nil, _ => .nil
  | .node l _ _ b r, ⟨hl, hr, hb, h1, h2⟩ => by
    have hl := of_balanced hl
    have hr := of_balanced hr
    rw [T.height]
    obtain rfl | rfl | rfl : b = -1 ∨ b = 0 ∨ b = 1 := by omega
    · have e : l.height = r.height + 1 := by omega
      rw [e] at hl ⊢
      rw [Nat.max_eq_left (Nat.le_succ _)]
      exact .leftHeavy hl hr
    · have e : l.height = r.height := by omega
      rw [e] at hl ⊢
      rw [Nat.max_self]
      exact .even hl hr
    · have e : r.height = l.height + 1 := by omega
      rw [e] at hr ⊢
      rw [Nat.max_eq_right (Nat.le_succ _)]
      exact .rightHeavy hl hr

theorem subLeft (h : BalH (node l i k b r) n) : BalH l l.height := by
  cases h with
  | leftHeavy hl _ => exact hl.self
  | even hl _ => exact hl.self
  | rightHeavy hl _ => exact hl.self

theorem subRight (h : BalH (node l i k b r) n) : BalH r r.height := by
  cases h with
  | leftHeavy _ hr => exact hr.self
  | even _ hr => exact hr.self
  | rightHeavy _ hr => exact hr.self

theorem setLeft (h : BalH (node l i k b r) n) (hl' : BalH l' l.height) :
    BalH (node l' i' k' b r) n := by
  cases h with
  | leftHeavy hl hr => exact .leftHeavy (hl.height_eq ▸ hl') hr
  | even hl hr => exact .even (hl.height_eq ▸ hl') hr
  | rightHeavy hl hr => exact .rightHeavy (hl.height_eq ▸ hl') hr

theorem setRight (h : BalH (node l i k b r) n) (hr' : BalH r' r.height) :
    BalH (node l i' k' b r') n := by
  cases h with
  | leftHeavy hl hr => exact .leftHeavy hl (hr.height_eq ▸ hr')
  | even hl hr => exact .even hl (hr.height_eq ▸ hr')
  | rightHeavy hl hr => exact .rightHeavy hl (hr.height_eq ▸ hr')

end BalH

theorem rotateLeft_inorder (t : T) : (rotateLeft t).inorder = t.inorder := by
  fun_cases rotateLeft t <;> simp [T.inorder]

theorem rotateRight_inorder (t : T) : (rotateRight t).inorder = t.inorder := by
  fun_cases rotateRight t <;> simp [T.inorder]

theorem rotateLeftRight_inorder (t : T) : (rotateLeftRight t).inorder = t.inorder := by
  fun_cases rotateLeftRight t <;> simp [T.inorder]

theorem rotateRightLeft_inorder (t : T) : (rotateRightLeft t).inorder = t.inorder := by
  fun_cases rotateRightLeft t <;> simp [T.inorder]

theorem rebalance_inorder (t : T) : (rebalance t).inorder = t.inorder := by
  fun_cases rebalance t
  · exact rotateLeftRight_inorder _
  · exact rotateRight_inorder _
  · exact rotateRightLeft_inorder _
  · exact rotateLeft_inorder _
  · rfl
  · rfl

/-- Rotating a node two levels left-heavy: the height drops to `n + 2` unless `l.bal = 0` (only in
removal); the iff is the stop test `t.bal = 0` of `fixLeftShrunk` / `fixRightShrunk`.  Each case
names the shape the rotation produces; the C balance updates are checked by unfolding. -/
theorem rebalance_left {l r : T} {i : Nat} {k : Int} {n : Nat}
    (hl : BalH l (n + 2)) (hr : BalH r n) :
    BalH (rebalance (node l i k (-2) r)) (n + 2 + if l.bal = 0 then 1 else 0) ∧
    ((rebalance (node l i k (-2) r)).bal = 0 ↔ l.bal ≠ 0) := by
  cases hl with
  | leftHeavy ha hc => exact ⟨.even ha (.even hc hr), by simp [rebalance, rotateRight, T.bal]⟩
  | even ha hc => exact ⟨.rightHeavy ha (.leftHeavy hc hr), by simp [rebalance, rotateRight, T.bal]⟩
  | rightHeavy ha hc =>
    cases hc with
    | leftHeavy h1 h2 =>
      exact ⟨.even (.even ha h1) (.rightHeavy h2 hr), by simp [rebalance, rotateLeftRight, T.bal]⟩
    | even h1 h2 =>
      exact ⟨.even (.even ha h1) (.even h2 hr), by simp [rebalance, rotateLeftRight, T.bal]⟩
    | rightHeavy h1 h2 =>
      exact ⟨.even (.leftHeavy ha h1) (.even h2 hr), by simp [rebalance, rotateLeftRight, T.bal]⟩

theorem rebalance_right {l r : T} {i : Nat} {k : Int} {n : Nat}
    (hl : BalH l n) (hr : BalH r (n + 2)) :
    BalH (rebalance (node l i k 2 r)) (n + 2 + if r.bal = 0 then 1 else 0) ∧
    ((rebalance (node l i k 2 r)).bal = 0 ↔ r.bal ≠ 0) := by
  cases hr with
  | rightHeavy ha hc => exact ⟨.even (.even hl ha) hc, by simp [rebalance, rotateLeft, T.bal]⟩
  | even ha hc => exact ⟨.leftHeavy (.rightHeavy hl ha) hc, by simp [rebalance, rotateLeft, T.bal]⟩
  | leftHeavy ha hc =>
    cases ha with
    | leftHeavy h1 h2 =>
      exact ⟨.even (.even hl h1) (.rightHeavy h2 hc), by simp [rebalance, rotateRightLeft, T.bal]⟩
    | even h1 h2 =>
      exact ⟨.even (.even hl h1) (.even h2 hc), by simp [rebalance, rotateRightLeft, T.bal]⟩
    | rightHeavy h1 h2 =>
      exact ⟨.even (.leftHeavy hl h1) (.even h2 hc), by simp [rebalance, rotateRightLeft, T.bal]⟩

theorem listInsert_append_lt {e : Int} {id : Nat} {l : List (Nat × Int)} {i : Nat} {k : Int}
    {r : List (Nat × Int)} (h : e < k) :
    listInsert e id (l ++ (i, k) :: r) = listInsert e id l ++ (i, k) :: r := by
  fun_induction listInsert e id l with
  | case1 => exact if_pos h
  | case2 j m rest hlt => exact if_pos hlt
  | case3 j m rest hlt ih => exact (if_neg hlt).trans (congrArg _ ih)

theorem listInsert_append_ge {e : Int} {id : Nat} {l : List (Nat × Int)} {i : Nat} {k : Int}
    {r : List (Nat × Int)} (h1 : ∀ p ∈ l, p.2 ≤ e) (h2 : k ≤ e) :
    listInsert e id (l ++ (i, k) :: r) = l ++ (i, k) :: listInsert e id r := by
  fun_induction listInsert e id l with
  | case1 => exact if_neg (Int.not_lt.2 h2)
  | case2 j m rest hlt => exact absurd hlt (Int.not_lt.2 (h1 (j, m) List.mem_cons_self))
  | case3 j m rest hlt ih =>
    exact (if_neg hlt).trans (congrArg _ (ih fun p hp => h1 p (List.mem_cons_of_mem _ hp)))

theorem listInsert_perm (e : Int) (id : Nat) (l : List (Nat × Int)) :
    (listInsert e id l).Perm ((id, e) :: l) := by
  fun_induction listInsert e id l with
  | case1 => exact List.Perm.refl _
  | case2 => exact List.Perm.refl _
  | case3 j m rest hlt ih => exact (List.Perm.cons _ ih).trans (List.Perm.swap _ _ _)

theorem mem_listInsert {e : Int} {id : Nat} {l : List (Nat × Int)} {p : Nat × Int} :
    p ∈ listInsert e id l ↔ p = (id, e) ∨ p ∈ l := by
  rw [(listInsert_perm e id l).mem_iff]; simp

/-- `R` is `≤` or `<`; `listInsert` puts `e` before the first key greater than it. -/
theorem listInsert_pairwise {R : Int → Int → Prop} {e : Int} (id : Nat) {l : List (Nat × Int)}
    (hlt : ∀ a b, e < a → a = b ∨ R a b → R e b) (hge : ∀ a ∈ l.map (·.2), ¬ e < a → R a e)
    (hs : (l.map (·.2)).Pairwise R) : ((listInsert e id l).map (·.2)).Pairwise R := by
  fun_induction listInsert e id l with
  | case1 => simp
  | case2 j m rest h =>
    simp only [List.map_cons, List.pairwise_cons] at hs ⊢
    refine ⟨fun a ha => ?_, hs⟩
    rcases List.mem_cons.1 ha with rfl | ha
    · exact hlt _ _ h (.inl rfl)
    · exact hlt _ _ h (.inr (hs.1 a ha))
  | case3 j m rest h ih =>
    simp only [List.map_cons, List.pairwise_cons] at hs ⊢
    refine ⟨fun a ha => ?_, ih (fun a ha => hge a (List.mem_cons_of_mem _ ha)) hs.2⟩
    obtain ⟨q, hq, rfl⟩ := List.mem_map.1 ha
    rcases mem_listInsert.1 hq with rfl | hq
    · exact hge m List.mem_cons_self h
    · exact hs.1 _ (List.mem_map_of_mem hq)

theorem listInsert_sorted {t t' : T} {e : Int} {id : Nat}
    (hI : t'.inorder = listInsert e id t.inorder)
    (hs : Sorted t) : Sorted t' := by
  unfold Sorted; rw [hI]
  exact listInsert_pairwise id (fun _ _ _ _ => by omega) (fun _ _ _ => by omega) hs

theorem listInsert_strict {t t' : T} {e : Int} {id : Nat}
    (hI : t'.inorder = listInsert e id t.inorder)
    (hs : StrictSorted t) (hne : e ∉ t.inorder.map (·.2)) : StrictSorted t' := by
  unfold StrictSorted; rw [hI]
  exact listInsert_pairwise id (fun _ _ _ _ => by omega)
    (fun a ha _ => by have : a ≠ e := fun h => hne (h ▸ ha); omega) hs

theorem sorted_node {l : T} {i : Nat} {k b : Int} {r : T} (hs : Sorted (node l i k b r)) :
    Sorted l ∧ Sorted r ∧ (∀ p ∈ l.inorder, p.2 ≤ k) ∧ (∀ p ∈ r.inorder, k ≤ p.2) := by
  simp only [Sorted, T.inorder, List.map_append, List.map_cons, List.pairwise_append,
    List.pairwise_cons, List.mem_cons, List.mem_map] at hs
  obtain ⟨h1, ⟨h2, h3⟩, h4⟩ := hs
  exact ⟨h1, h3, fun p hp => h4 p.2 ⟨p, hp, rfl⟩ k (Or.inl rfl), fun p hp => h2 p.2 ⟨p, hp, rfl⟩⟩

theorem keys_node (l : T) (i : Nat) (k b : Int) (r : T) (e : Int) :
    e ∈ (node l i k b r).inorder.map (·.2) ↔
      e ∈ l.inorder.map (·.2) ∨ e = k ∨ e ∈ r.inorder.map (·.2) := by
  rw [T.inorder, List.map_append, List.map_cons, List.mem_append, List.mem_cons]

theorem mem_keys_of_lt {l r : T} {i : Nat} {k b e : Int} (hs : Sorted (node l i k b r))
    (h : e < k) :
    e ∈ (node l i k b r).inorder.map (·.2) ↔ e ∈ l.inorder.map (·.2) := by
  rw [keys_node]
  refine ⟨fun hm => ?_, .inl⟩
  rcases hm with hm | hm | hm
  · exact hm
  · omega
  · obtain ⟨q, hq, rfl⟩ := List.mem_map.1 hm
    have := (sorted_node hs).2.2.2 q hq
    omega

theorem mem_keys_of_gt {l r : T} {i : Nat} {k b e : Int} (hs : Sorted (node l i k b r))
    (h : k < e) :
    e ∈ (node l i k b r).inorder.map (·.2) ↔ e ∈ r.inorder.map (·.2) := by
  rw [keys_node]
  refine ⟨fun hm => ?_, fun hm => .inr (.inr hm)⟩
  rcases hm with hm | hm | hm
  · obtain ⟨q, hq, rfl⟩ := List.mem_map.1 hm
    have := (sorted_node hs).2.2.1 q hq
    omega
  · omega
  · exact hm

/-- `Grown t (t', grew)`: if `t` is balanced so is `t'`, one level higher exactly when `grew`; a
tree that grew is not even at the root unless it is the new leaf, so that a rotation above it
absorbs the growth. -/
def Grown (t : T) (p : T × Bool) : Prop :=
  ∀ {n : Nat}, BalH t n → BalH p.1 (n + if p.2 then 1 else 0) ∧ (p.2 = true → p.1.bal ≠ 0 ∨ n = 0)

theorem Grown.balanced {t : T} {p : T × Bool} (h : Grown t p) (hb : Balanced t) :
    Balanced p.1 ∧ p.1.height = t.height + if p.2 then 1 else 0 :=
  have hB := (h (BalH.of_balanced hb)).1
  ⟨hB.balanced, hB.height_eq⟩

/-! What `insertAux` does above a subtree that its recursive call replaced by `p.1`, one level
higher if `p.2`. -/

def growLeft (p : T × Bool) (i : Nat) (k b : Int) (r : T) : T × Bool :=
  if p.2 then
    if b - 1 = -2 then (rebalance (node p.1 i k (b - 1) r), false)
    else (node p.1 i k (b - 1) r, decide (b - 1 ≠ 0))
  else (node p.1 i k b r, false)

def growRight (l : T) (i : Nat) (k b : Int) (p : T × Bool) : T × Bool :=
  if p.2 then
    if b + 1 = 2 then (rebalance (node l i k (b + 1) p.1), false)
    else (node l i k (b + 1) p.1, decide (b + 1 ≠ 0))
  else (node l i k b p.1, false)

def InsRes.map (f : T × Bool → T × Bool) : InsRes → InsRes
  | .exists_ x => .exists_ x
  | .done t g => .done (f (t, g)).1 (f (t, g)).2

theorem insertAux_node (dups : Bool) (e : Int) (id : Nat) (l : T) (i : Nat) (k b : Int) (r : T) :
    insertAux dups e id (node l i k b r) =
      if e < k then (insertAux dups e id l).map (growLeft · i k b r)
      else if e > k ∨ dups then (insertAux dups e id r).map (growRight l i k b)
      else .exists_ i := by
  rw [insertAux]
  by_cases hlt : e < k
  · rw [if_pos hlt, if_pos hlt]
    cases insertAux dups e id l with
    | exists_ x => rfl
    | done l' g =>
      cases g with
      | false => rfl
      | true => by_cases h : b - 1 = -2 <;> simp only [InsRes.map, growLeft, h, ↓reduceIte]
  · rw [if_neg hlt, if_neg hlt]
    by_cases hgo : e > k ∨ dups = true
    · rw [if_pos hgo, if_pos hgo]
      cases insertAux dups e id r with
      | exists_ x => rfl
      | done r' g =>
        cases g with
        | false => rfl
        | true => by_cases h : b + 1 = 2 <;> simp only [InsRes.map, growRight, h, ↓reduceIte]
    · rw [if_neg hgo, if_neg hgo]

theorem growLeft_inorder (p : T × Bool) (i : Nat) (k b : Int) (r : T) :
    (growLeft p i k b r).1.inorder = p.1.inorder ++ (i, k) :: r.inorder := by
  fun_cases growLeft p i k b r
  · exact rebalance_inorder (node p.1 i k _ r)
  · rfl
  · rfl

theorem growRight_inorder (l : T) (i : Nat) (k b : Int) (p : T × Bool) :
    (growRight l i k b p).1.inorder = l.inorder ++ (i, k) :: p.1.inorder := by
  fun_cases growRight l i k b p
  · exact rebalance_inorder (node l i k _ p.1)
  · rfl
  · rfl

theorem Grown.left {l r : T} {p : T × Bool} {i : Nat} {k b : Int} (h : Grown l p) :
    Grown (node l i k b r) (growLeft p i k b r) := by
  intro n hb
  obtain ⟨hl', hg⟩ := h hb.subLeft
  unfold growLeft
  cases hs : p.2 with
  | false => rw [hs] at hl'; exact ⟨hb.setLeft hl', nofun⟩
  | true =>
    rw [hs] at hl'
    have hne := hg hs
    cases hb with
    | leftHeavy hl hr =>
      rw [hl.height_eq] at hl' hne
      have := (rebalance_left (i := i) (k := k) hl' hr).1
      rw [if_neg (hne.resolve_right (Nat.succ_ne_zero _))] at this
      exact ⟨this, nofun⟩
    | even hl hr =>
      rw [hl.height_eq] at hl'
      exact ⟨.leftHeavy hl' hr, fun _ => .inl (by decide : (-1 : Int) ≠ 0)⟩
    | rightHeavy hl hr => rw [hl.height_eq] at hl'; exact ⟨.even hl' hr, nofun⟩

theorem Grown.right {l r : T} {p : T × Bool} {i : Nat} {k b : Int} (h : Grown r p) :
    Grown (node l i k b r) (growRight l i k b p) := by
  intro n hb
  obtain ⟨hr', hg⟩ := h hb.subRight
  unfold growRight
  cases hs : p.2 with
  | false => rw [hs] at hr'; exact ⟨hb.setRight hr', nofun⟩
  | true =>
    rw [hs] at hr'
    have hne := hg hs
    cases hb with
    | rightHeavy hl hr =>
      rw [hr.height_eq] at hr' hne
      have := (rebalance_right (i := i) (k := k) hl hr').1
      rw [if_neg (hne.resolve_right (Nat.succ_ne_zero _))] at this
      exact ⟨this, nofun⟩
    | even hl hr =>
      rw [hr.height_eq] at hr'
      exact ⟨.rightHeavy hl hr', fun _ => .inl (by decide : (1 : Int) ≠ 0)⟩
    | leftHeavy hl hr => rw [hr.height_eq] at hr'; exact ⟨.even hl hr', nofun⟩

/-- Insertion: refused as a duplicate, or the in-order list gains the element at its place and
`Grown` holds. -/
theorem insertAux_spec (dups : Bool) (e : Int) (id : Nat) (t : T) (hs : Sorted t) :
    (dups = false ∧ ∃ i, insertAux dups e id t = .exists_ i ∧ (i, e) ∈ t.inorder) ∨
    ((dups = false → e ∉ t.inorder.map (·.2)) ∧
      ∃ t' grew, insertAux dups e id t = .done t' grew ∧
        t'.inorder = listInsert e id t.inorder ∧ Grown t (t', grew)) := by
  induction t with
  | nil =>
    refine .inr ⟨fun _ => nofun, _, _, rfl, rfl, fun hb => ?_⟩
    cases hb
    exact ⟨.even .nil .nil, fun _ => .inr rfl⟩
  | node l i k b r ihl ihr =>
    obtain ⟨hsl, hsr, hlk, _⟩ := sorted_node hs
    rw [insertAux_node]
    by_cases hlt : e < k
    · rw [if_pos hlt]
      rcases ihl hsl with ⟨hd, x, hx, hmem⟩ | ⟨hnot, l', grew, hres, hino, hG⟩
      · rw [hx]
        exact .inl ⟨hd, x, rfl, List.mem_append_left _ hmem⟩
      · rw [hres]
        refine .inr ⟨fun hd => mt (mem_keys_of_lt hs hlt).1 (hnot hd), _, _, rfl, ?_, hG.left⟩
        rw [growLeft_inorder, hino, T.inorder, listInsert_append_lt hlt]
    · rw [if_neg hlt]
      by_cases hgo : e > k ∨ dups = true
      · rw [if_pos hgo]
        rcases ihr hsr with ⟨hd, x, hx, hmem⟩ | ⟨hnot, r', grew, hres, hino, hG⟩
        · rw [hx]
          exact .inl ⟨hd, x, rfl, List.mem_append_right _ (List.mem_cons_of_mem _ hmem)⟩
        · rw [hres]
          refine .inr ⟨fun hd => ?_, _, _, rfl, ?_, hG.right⟩
          · have hgt : e > k := hgo.resolve_right (by simp [hd])
            exact mt (mem_keys_of_gt hs hgt).1 (hnot hd)
          · rw [growRight_inorder, hino, T.inorder, listInsert_append_ge
              (fun p hp => by have := hlk p hp; omega) (by omega)]
      · rw [if_neg hgo]
        have hd : dups = false := by cases dups <;> simp at hgo ⊢
        have hek : e = k := by have : ¬ e > k := fun h => hgo (.inl h); omega
        exact .inl ⟨hd, i, rfl, by simp [T.inorder, hek]⟩

/-- `Shrunk t (t', shrunk)`: if `t` is balanced so is `t'`, one level lower exactly when
`shrunk`. -/
def Shrunk (t : T) (p : T × Bool) : Prop :=
  ∀ {n : Nat}, BalH t n → ∃ n', BalH p.1 n' ∧ n = n' + if p.2 then 1 else 0

theorem Shrunk.balanced {t : T} {p : T × Bool} (h : Shrunk t p) (hb : Balanced t) :
    Balanced p.1 ∧ t.height = p.1.height + if p.2 then 1 else 0 := by
  obtain ⟨_, hB, hH⟩ := h (BalH.of_balanced hb)
  exact ⟨hB.balanced, hB.height_eq ▸ hH⟩

theorem Shrunk.nil_left {i : Nat} {k b : Int} {r : T} : Shrunk (node nil i k b r) (r, true) := by
  intro n hb
  cases hb with
  | leftHeavy hl _ => cases hl
  | even hl hr => cases hl; exact ⟨_, hr, rfl⟩
  | rightHeavy hl hr => cases hl; exact ⟨_, hr, rfl⟩

theorem Shrunk.nil_right {l : T} {i : Nat} {k b : Int} : Shrunk (node l i k b nil) (l, true) := by
  intro n hb
  cases hb with
  | leftHeavy hl hr => cases hr; exact ⟨_, hl, rfl⟩
  | even hl hr => cases hr; exact ⟨_, hl, rfl⟩
  | rightHeavy _ hr => cases hr

theorem fixLeftShrunk_inorder (t : T) : (fixLeftShrunk t).1.inorder = t.inorder := by
  fun_cases fixLeftShrunk t
  · rfl
  · rfl
  · exact rebalance_inorder (node _ _ _ _ _)
  · rfl

theorem fixRightShrunk_inorder (t : T) : (fixRightShrunk t).1.inorder = t.inorder := by
  fun_cases fixRightShrunk t
  · rfl
  · rfl
  · exact rebalance_inorder (node _ _ _ _ _)
  · rfl

theorem fixLeftShrunk_bal {l l' r : T} {i i' : Nat} {k k' b : Int} {n m : Nat}
    (hb : BalH (node l i k b r) n) (hl' : BalH l' m) (e : l.height = m + 1) :
    ∃ n', BalH (fixLeftShrunk (node l' i' k' b r)).1 n' ∧
      n = n' + if (fixLeftShrunk (node l' i' k' b r)).2 then 1 else 0 := by
  cases hb with
  | leftHeavy hl hr => cases hl.height_eq.symm.trans e; exact ⟨_, .even hl' hr, rfl⟩
  | even hl hr => cases hl.height_eq.symm.trans e; exact ⟨_, .rightHeavy hl' hr, rfl⟩
  | rightHeavy hl hr =>
    cases hl.height_eq.symm.trans e
    obtain ⟨hB, hz⟩ := rebalance_right (i := i') (k := k') hl' hr
    refine ⟨_, hB, ?_⟩
    show m + 3 = m + 2 + (if r.bal = 0 then 1 else 0) +
      if decide ((rebalance (node l' i' k' 2 r)).bal = 0) = true then 1 else 0
    by_cases h0 : r.bal = 0 <;> simp [hz, h0]

theorem fixRightShrunk_bal {l r r' : T} {i i' : Nat} {k k' b : Int} {n m : Nat}
    (hb : BalH (node l i k b r) n) (hr' : BalH r' m) (e : r.height = m + 1) :
    ∃ n', BalH (fixRightShrunk (node l i' k' b r')).1 n' ∧
      n = n' + if (fixRightShrunk (node l i' k' b r')).2 then 1 else 0 := by
  cases hb with
  | rightHeavy hl hr => cases hr.height_eq.symm.trans e; exact ⟨_, .even hl hr', rfl⟩
  | even hl hr => cases hr.height_eq.symm.trans e; exact ⟨_, .leftHeavy hl hr', rfl⟩
  | leftHeavy hl hr =>
    cases hr.height_eq.symm.trans e
    obtain ⟨hB, hz⟩ := rebalance_left (i := i') (k := k') hl hr'
    refine ⟨_, hB, ?_⟩
    show m + 3 = m + 2 + (if l.bal = 0 then 1 else 0) +
      if decide ((rebalance (node l i' k' (-2) r')).bal = 0) = true then 1 else 0
    by_cases h0 : l.bal = 0 <;> simp [hz, h0]

/-! The retrace step of removal above a subtree that was replaced by `p.1`, one level lower if
`p.2`: what `removeMin` and `removeId` do with the result of their recursive call on the left,
`removeRoot` and `removeId` on the right. -/

def shrinkLeft (p : T × Bool) (i : Nat) (k b : Int) (r : T) : T × Bool :=
  if p.2 then fixLeftShrunk (node p.1 i k b r) else (node p.1 i k b r, false)

def shrinkRight (l : T) (i : Nat) (k b : Int) (p : T × Bool) : T × Bool :=
  if p.2 then fixRightShrunk (node l i k b p.1) else (node l i k b p.1, false)

theorem shrinkLeft_inorder (p : T × Bool) (i : Nat) (k b : Int) (r : T) :
    (shrinkLeft p i k b r).1.inorder = p.1.inorder ++ (i, k) :: r.inorder := by
  fun_cases shrinkLeft p i k b r
  · exact fixLeftShrunk_inorder _
  · rfl

theorem shrinkRight_inorder (l : T) (i : Nat) (k b : Int) (p : T × Bool) :
    (shrinkRight l i k b p).1.inorder = l.inorder ++ (i, k) :: p.1.inorder := by
  fun_cases shrinkRight l i k b p
  · exact fixRightShrunk_inorder _
  · rfl

theorem Shrunk.left {l r : T} {p : T × Bool} {i i' : Nat} {k k' b : Int} (h : Shrunk l p) :
    Shrunk (node l i k b r) (shrinkLeft p i' k' b r) := by
  intro n hb
  obtain ⟨m, hB, hH⟩ := h hb.subLeft
  fun_cases shrinkLeft p i' k' b r with
  | case1 hs => rw [if_pos hs] at hH; exact fixLeftShrunk_bal hb hB hH
  | case2 hs => rw [if_neg hs] at hH; exact ⟨n, hb.setLeft (hH ▸ hB), rfl⟩

theorem Shrunk.right {l r : T} {p : T × Bool} {i i' : Nat} {k k' b : Int} (h : Shrunk r p) :
    Shrunk (node l i k b r) (shrinkRight l i' k' b p) := by
  intro n hb
  obtain ⟨m, hB, hH⟩ := h hb.subRight
  fun_cases shrinkRight l i' k' b p with
  | case1 hs => rw [if_pos hs] at hH; exact fixRightShrunk_bal hb hB hH
  | case2 hs => rw [if_neg hs] at hH; exact ⟨n, hb.setRight (hH ▸ hB), rfl⟩

theorem removeMin_node {l : T} (hl : l ≠ .nil) (i : Nat) (k b : Int) (r : T) :
    removeMin (node l i k b r) =
      ((removeMin l).1, (removeMin l).2.1, shrinkLeft (removeMin l).2.2 i k b r) := by
  cases l with
  | nil => exact absurd rfl hl
  | node a j m c d =>
    simp only [removeMin, shrinkLeft]
    split <;> rfl

theorem removeMin_spec {t : T} (hne : t ≠ .nil) :
    t.inorder = ((removeMin t).1, (removeMin t).2.1) :: (removeMin t).2.2.1.inorder ∧
    Shrunk t (removeMin t).2.2 := by
  induction t with
  | nil => exact absurd rfl hne
  | node l i k b r ihl _ =>
    by_cases hl : l = .nil
    · subst hl
      exact ⟨rfl, Shrunk.nil_left⟩
    · obtain ⟨hI, hS⟩ := ihl hl
      rw [removeMin_node hl]
      refine ⟨?_, hS.left⟩
      rw [T.inorder, hI]
      exact (congrArg _ (shrinkLeft_inorder _ i k b r)).symm

theorem removeRoot_node {l r : T} (hl : l ≠ .nil) (hr : r ≠ .nil) (i : Nat) (k b : Int) :
    removeRoot (node l i k b r) =
      shrinkRight l (removeMin r).1 (removeMin r).2.1 b (removeMin r).2.2 := by
  cases l with
  | nil => exact absurd rfl hl
  | node _ _ _ _ _ =>
    cases r with
    | nil => exact absurd rfl hr
    | node _ _ _ _ _ => simp only [removeRoot, shrinkRight]

theorem removeRoot_nil_left (i : Nat) (k b : Int) (r : T) :
    removeRoot (node nil i k b r) = (r, true) := by
  cases r <;> rfl

theorem removeRoot_nil_right (l : T) (i : Nat) (k b : Int) :
    removeRoot (node l i k b nil) = (l, true) := by
  cases l <;> rfl

theorem removeRoot_spec (l : T) (i : Nat) (k b : Int) (r : T) :
    (removeRoot (node l i k b r)).1.inorder = l.inorder ++ r.inorder ∧
    Shrunk (node l i k b r) (removeRoot (node l i k b r)) := by
  by_cases hl : l = .nil
  · subst hl
    rw [removeRoot_nil_left]
    exact ⟨rfl, Shrunk.nil_left⟩
  · by_cases hr : r = .nil
    · subst hr
      rw [removeRoot_nil_right]
      exact ⟨(List.append_nil _).symm, Shrunk.nil_right⟩
    · obtain ⟨hI, hS⟩ := removeMin_spec hr
      rw [removeRoot_node hl hr]
      exact ⟨by rw [shrinkRight_inorder, hI], hS.right⟩

theorem removeId_none (id : Nat) (t : T) (hin : id ∉ t.inorder.map (·.1)) :
    removeId id t = none := by
  induction t with
  | nil => rfl
  | node l i k b r ihl ihr =>
    simp only [T.inorder, List.map_append, List.map_cons, List.mem_append, List.mem_cons,
      not_or] at hin
    obtain ⟨h1, h2, h3⟩ := hin
    have hne : ¬ i = id := fun h => h2 h.symm
    simp only [removeId, hne, ↓reduceIte, ihl h1, ihr h3]

theorem removeId_node (id : Nat) (l : T) (i : Nat) (k b : Int) (r : T) :
    removeId id (node l i k b r) =
      if i = id then some (removeRoot (node l i k b r))
      else match removeId id l with
        | some p => some (shrinkLeft p i k b r)
        | none => (removeId id r).map (shrinkRight l i k b) := by
  rw [removeId]
  split
  · rfl
  · cases removeId id l with
    | some p => rfl
    | none => cases removeId id r <;> rfl

theorem removeId_spec (id : Nat) (t : T) (hin : id ∈ t.inorder.map (·.1)) :
    ∃ p pre k post, removeId id t = some p ∧ t.inorder = pre ++ (id, k) :: post ∧
      p.1.inorder = pre ++ post ∧ Shrunk t p := by
  induction t with
  | nil => cases hin
  | node l i k b r ihl ihr =>
    rw [removeId_node]
    by_cases hi : i = id
    · subst hi
      exact ⟨_, _, k, _, if_pos rfl, rfl, (removeRoot_spec l i k b r).1,
        (removeRoot_spec l i k b r).2⟩
    · rw [if_neg hi]
      by_cases hl : id ∈ l.inorder.map (·.1)
      · obtain ⟨p, pre, m, post, hres, hT, hI, hS⟩ := ihl hl
        refine ⟨_, pre, m, post ++ (i, k) :: r.inorder, by rw [hres], ?_, ?_, hS.left⟩
        · rw [T.inorder, hT, List.append_assoc]; rfl
        · rw [shrinkLeft_inorder, hI, List.append_assoc]
      · have hr : id ∈ r.inorder.map (·.1) := by
          simp only [T.inorder, List.map_append, List.map_cons, List.mem_append,
            List.mem_cons] at hin
          exact (hin.resolve_left hl).resolve_left (Ne.symm hi)
        obtain ⟨p, pre, m, post, hres, hT, hI, hS⟩ := ihr hr
        refine ⟨_, l.inorder ++ (i, k) :: pre, m, post,
          by rw [removeId_none id l hl, hres]; rfl, ?_, ?_, hS.right⟩
        · rw [T.inorder, hT, List.append_assoc]; rfl
        · rw [shrinkRight_inorder, hI, List.append_assoc]; rfl

theorem find_spec_from (e : Int) (t : T) (hs : Sorted t) (n : Nat) :
    (find e t n).2 ≤ t.height + n ∧
    (∀ i, (find e t n).1 = some i → (i, e) ∈ t.inorder) ∧
    ((find e t n).1 = none ↔ e ∉ t.inorder.map (·.2)) := by
  fun_induction find e t n with
  | case1 => exact ⟨Nat.le_add_left _ _, nofun, fun _ => nofun, fun _ => rfl⟩
  | case2 =>
    rw [T.height]
    refine ⟨by omega, fun j hj => ?_, nofun, fun h => absurd ((keys_node ..).2 (.inr (.inl rfl))) h⟩
    cases hj
    exact List.mem_append_right _ List.mem_cons_self
  | case3 l i k b r n hek hlt ih =>
    obtain ⟨h1, h2, h3⟩ := ih (sorted_node hs).1
    rw [mem_keys_of_lt hs hlt, T.height]
    exact ⟨by omega, fun j hj => List.mem_append_left _ (h2 j hj), h3⟩
  | case4 l i k b r n hek hlt ih =>
    obtain ⟨h1, h2, h3⟩ := ih (sorted_node hs).2.1
    rw [mem_keys_of_gt hs (by omega : k < e), T.height]
    exact ⟨by omega, fun j hj => List.mem_append_right _ (List.mem_cons_of_mem _ (h2 j hj)), h3⟩

theorem fib_le_succ (n : Nat) : fib n ≤ fib (n + 1) := by
  cases n with
  | zero => simp [fib]
  | succ m => simp only [fib]; omega

theorem fib_mono {m n : Nat} (h : m ≤ n) : fib m ≤ fib n := by
  induction h with
  | refl => exact Nat.le_refl _
  | step _ ih => exact Nat.le_trans ih (fib_le_succ _)

theorem fib_height_bound {t : T} {n : Nat} (hb : BalH t n) : fib (n + 2) ≤ t.size + 1 := by
  induction hb with
  | nil => decide
  | @leftHeavy l r _ _ m _ _ ihl ihr =>
    show fib (m + 2) + fib (m + 1 + 2) ≤ l.size + r.size + 1 + 1
    omega
  | @even l r _ _ m _ _ ihl ihr =>
    have : fib (m + 1) ≤ fib (m + 2) := fib_le_succ (m + 1)
    show fib (m + 1) + fib (m + 2) ≤ l.size + r.size + 1 + 1
    omega
  | @rightHeavy l r _ _ m _ _ ihl ihr =>
    show fib (m + 2) + fib (m + 1 + 2) ≤ l.size + r.size + 1 + 1
    omega

theorem filter_ne_self (id : Nat) (l : List (Nat × Int)) (h : id ∉ l.map (·.1)) :
    l.filter (fun p => p.1 ≠ id) = l :=
  List.filter_eq_self.2 fun a ha => decide_eq_true fun he => h (List.mem_map.2 ⟨a, ha, he⟩)

theorem filter_ne_split {id : Nat} {k : Int} {pre post : List (Nat × Int)}
    (h : ((pre ++ (id, k) :: post).map (·.1)).Nodup) :
    (pre ++ (id, k) :: post).filter (fun p => p.1 ≠ id) = pre ++ post := by
  rw [List.map_append, List.map_cons, List.nodup_append, List.nodup_cons] at h
  obtain ⟨_, ⟨hpost, _⟩, hdisj⟩ := h
  rw [List.filter_append, List.filter_cons, if_neg (by simp), filter_ne_self id post hpost,
    filter_ne_self id pre fun hm => hdisj id hm id List.mem_cons_self rfl]

theorem find?_key_of_mem (l : List (Nat × Int)) (i : Nat) (e : Int)
    (hs : (l.map (·.2)).Pairwise (· < ·)) (hm : (i, e) ∈ l) :
    l.find? (fun p => p.2 == e) = some (i, e) := by
  obtain ⟨l₁, l₂, rfl⟩ := List.append_of_mem hm
  rw [List.map_append, List.pairwise_append] at hs
  exact List.find?_eq_some_iff_append.2 ⟨beq_self_eq_true e, l₁, l₂, rfl, fun a ha =>
    bne_iff_ne.2 (Int.ne_of_lt (hs.2.2 a.2 (List.mem_map_of_mem ha) e List.mem_cons_self))⟩

theorem find?_key_none (l : List (Nat × Int)) (e : Int) (h : e ∉ l.map (·.2)) :
    l.find? (fun p => p.2 == e) = none :=
  List.find?_eq_none.2 fun x hx hxe => h (List.mem_map.2 ⟨x, hx, eq_of_beq hxe⟩)

theorem lookup_of_mem (l : List (Nat × Int)) (i : Nat) (k : Int)
    (hn : (l.map (·.1)).Nodup) (hm : (i, k) ∈ l) : l.lookup i = some k := by
  obtain ⟨l₁, l₂, rfl⟩ := List.append_of_mem hm
  rw [List.map_append, List.nodup_append] at hn
  exact List.lookup_eq_some_iff.2 ⟨l₁, l₂, rfl, fun p hp =>
    bne_iff_ne.2 fun e => hn.2.2 p.1 (List.mem_map_of_mem hp) i List.mem_cons_self e.symm⟩

end Zix.Avl

namespace Zix.C06
open Zix.Avl

theorem TreeInv.sorted_root {t : Tree} (h : TreeInv t) : Sorted t.root := by
  have hs := h.sorted
  cases hd : t.dups
  · rw [hd] at hs; exact hs.imp Int.le_of_lt
  · rw [hd] at hs; exact hs

theorem TreeInv.insert_done {t : Tree} (h : TreeInv t) {e : Int} {r : T} {g : Bool}
    (hres : insertAux t.dups e t.next t.root = .done r g) :
    TreeInv { t with root := r, size := t.size + 1, next := t.next + 1 } := by
  have hs := h.sorted_root
  obtain ⟨hbal, hsorted, hsize, hfresh, hnodup⟩ := h
  rcases insertAux_spec t.dups e t.next t.root hs with ⟨_, i, hx, _⟩ | ⟨hnot, r', g', hres', hI, hG⟩
  · cases hx.symm.trans hres
  · cases hres'.symm.trans hres
    have hperm := listInsert_perm e t.next t.root.inorder
    refine ⟨(hG.balanced hbal).1, ?_, ?_, ?_, ?_⟩
    · show if t.dups then Sorted r else StrictSorted r
      cases hd : t.dups
      · rw [hd] at hsorted
        exact listInsert_strict hI hsorted (hnot hd)
      · exact listInsert_sorted hI hs
    · show t.size + 1 = r.size
      rw [size_eq_length r, hI, hperm.length_eq, hsize, size_eq_length t.root]
      rfl
    · show ∀ p ∈ r.inorder, p.1 < t.next + 1
      intro p hp
      rw [hI] at hp
      rcases mem_listInsert.1 hp with rfl | hp
      · exact Nat.lt_succ_self _
      · exact Nat.lt_succ_of_lt (hfresh p hp)
    · show (r.inorder.map (·.1)).Nodup
      rw [hI, (hperm.map (·.1)).nodup_iff, List.map_cons, List.nodup_cons]
      refine ⟨fun hm => ?_, hnodup⟩
      obtain ⟨q, hq, hq1⟩ := List.mem_map.1 hm
      have := hfresh q hq
      omega

theorem TreeInv.remove_some {t : Tree} (h : TreeInv t) {id : Nat} {p : T × Bool}
    (hres : removeId id t.root = some p) : TreeInv { t with root := p.1, size := t.size - 1 } := by
  obtain ⟨hbal, hsorted, hsize, hfresh, hnodup⟩ := h
  have hin : id ∈ t.root.inorder.map (·.1) :=
    Classical.byContradiction fun hn => nomatch (removeId_none id t.root hn).symm.trans hres
  obtain ⟨p', pre, k, post, hres', hT, hI, hS⟩ := removeId_spec id t.root hin
  cases hres'.symm.trans hres
  have hsub : p.1.inorder.Sublist t.root.inorder := by
    rw [hI, hT]; exact (List.sublist_cons_self _ _).append_left _
  refine ⟨(hS.balanced hbal).1, ?_, ?_, fun q hq => hfresh q (hsub.subset hq),
    List.Nodup.sublist (hsub.map _) hnodup⟩
  · show if t.dups then Sorted p.1 else StrictSorted p.1
    revert hsorted
    cases t.dups <;> exact List.Pairwise.sublist (hsub.map _)
  · show t.size - 1 = p.1.size
    rw [size_eq_length p.1, hI, hsize, size_eq_length t.root, hT, List.length_append,
      List.length_append]
    rfl

end Zix.C06

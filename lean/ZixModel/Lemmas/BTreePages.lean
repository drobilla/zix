import ZixModel.Spec.BTreePages
import ZixModel.Lemmas.BTreeBasic
/-! Page accounting of the B-tree model: what replaying allocator events does to a set of live
blocks, and the frame rule for the pages of a list of nodes (`pagesL_frame`). -/
namespace Zix.BTree.Pg

mutual
/-- `Zix.C08.pagesOf` and `pagesOfList` under the names the lemmas use (`pagesOf_eq`,
`pagesOfList_eq`). -/
def pages : Node → List Nat
  | .leaf id _ => [id]
  | .inode id _ cs => id :: pagesL cs
def pagesL : List Node → List Nat
  | [] => []
  | c :: cs => pages c ++ pagesL cs
end

@[simp] theorem pages_leaf (id vs) : pages (.leaf id vs) = [id] := by simp [pages]
@[simp] theorem pages_inode (id vs cs) : pages (.inode id vs cs) = id :: pagesL cs := by
  simp [pages]
@[simp] theorem pagesL_nil : pagesL [] = [] := by simp [pagesL]
@[simp] theorem pagesL_cons (c cs) : pagesL (c :: cs) = pages c ++ pagesL cs := by simp [pagesL]
@[simp] theorem pagesL_append (a b : List Node) : pagesL (a ++ b) = pagesL a ++ pagesL b := by
  induction a with
  | nil => simp
  | cons x a ih => simp [ih]

end Zix.BTree.Pg

namespace Zix.C08
open Zix.BTree

mutual
theorem pagesOf_eq : ∀ n : Node, pagesOf n = Pg.pages n
  | .leaf id vs => by rw [pagesOf, Pg.pages]
  | .inode id vs cs => by rw [pagesOf, Pg.pages, pagesOfList_eq cs]
theorem pagesOfList_eq : ∀ cs : List Node, pagesOfList cs = Pg.pagesL cs
  | [] => by rw [pagesOfList, Pg.pagesL]
  | c :: cs => by rw [pagesOfList, Pg.pagesL, pagesOf_eq c, pagesOfList_eq cs]
end

end Zix.C08

namespace Zix.BTree.Pg
open Zix.C08 (applyEvs PagesOK Tree.pages)

theorem treePages_eq (t : Tree) : Tree.pages t = t.treeId :: pages t.root := by
  rw [Tree.pages, Zix.C08.pagesOf_eq]

def allocs : List Ev → List Nat
  | [] => []
  | .alloc id :: r => id :: allocs r
  | .allocFail :: r => allocs r
  | .free _ :: r => allocs r

def frees : List Ev → List Nat
  | [] => []
  | .alloc _ :: r => frees r
  | .allocFail :: r => frees r
  | .free id :: r => id :: frees r

def NoFree (evs : List Ev) : Prop := ∀ ev ∈ evs, ∀ id, ev ≠ Ev.free id

def AllFree (evs : List Ev) : Prop := ∀ ev ∈ evs, ∃ id, ev = Ev.free id

@[simp] theorem allFree_nil : AllFree [] := by intro ev h; cases h

@[simp] theorem allFree_cons {id : Nat} {evs} : AllFree (Ev.free id :: evs) ↔ AllFree evs := by
  simp [AllFree]

@[simp] theorem allFree_append {a b} : AllFree (a ++ b) ↔ AllFree a ∧ AllFree b := by
  simp only [AllFree, List.mem_append]
  exact ⟨fun h => ⟨fun ev hm => h ev (Or.inl hm), fun ev hm => h ev (Or.inr hm)⟩,
    fun h ev hm => hm.elim (h.1 ev) (h.2 ev)⟩

@[simp] theorem allocs_nil : allocs [] = [] := rfl
@[simp] theorem allocs_alloc (id r) : allocs (.alloc id :: r) = id :: allocs r := rfl
@[simp] theorem allocs_fail (r) : allocs (.allocFail :: r) = allocs r := rfl
@[simp] theorem allocs_free (id r) : allocs (.free id :: r) = allocs r := rfl
@[simp] theorem frees_nil : frees [] = [] := rfl
@[simp] theorem frees_alloc (id r) : frees (.alloc id :: r) = frees r := rfl
@[simp] theorem frees_fail (r) : frees (.allocFail :: r) = frees r := rfl
@[simp] theorem frees_free (id r) : frees (.free id :: r) = id :: frees r := rfl

@[simp] theorem allocs_append (a b : List Ev) : allocs (a ++ b) = allocs a ++ allocs b := by
  fun_induction allocs a <;> simp [*]

@[simp] theorem frees_append (a b : List Ev) : frees (a ++ b) = frees a ++ frees b := by
  fun_induction frees a <;> simp [*]

theorem noFree_nil : NoFree [] := by intro ev h; cases h

theorem noFree_append {a b : List Ev} (ha : NoFree a) (hb : NoFree b) : NoFree (a ++ b) := by
  intro ev hm
  rcases List.mem_append.1 hm with h | h
  · exact ha ev h
  · exact hb ev h

theorem noFree_alloc (id : Nat) : NoFree [.alloc id] := by
  intro ev hm id' h
  simp at hm
  subst hm
  cases h

theorem noFree_fail : NoFree [.allocFail] := by
  intro ev hm id' h
  simp at hm
  subst hm
  cases h

theorem noFree_tail {x : Ev} {evs : List Ev} (h : NoFree (x :: evs)) : NoFree evs :=
  fun ev hm => h ev (List.mem_cons_of_mem _ hm)

theorem replay_append (live : List Nat) (e1 e2 : List Ev) :
    applyEvs live (e1 ++ e2) = (applyEvs live e1).bind (fun l => applyEvs l e2) := by
  fun_induction applyEvs live e1 <;> simp [applyEvs, *]

theorem replay_perm {l1 l2 : List Nat} (evs : List Ev) (hp : l1.Perm l2) :
    ∀ r1, applyEvs l1 evs = some r1 → ∃ r2, applyEvs l2 evs = some r2 ∧ r1.Perm r2 := by
  fun_induction applyEvs l1 evs generalizing l2 with
  | case1 live =>
    intro r1 h
    cases h
    exact ⟨l2, rfl, hp⟩
  | case2 live id rest hm | case6 live id rest hm => nofun -- a live id granted, a dead one released
  | case3 live id rest hm ih =>
    rw [applyEvs, if_neg (fun h2 => hm (hp.mem_iff.2 h2))]
    exact ih (hp.cons id)
  | case4 live rest ih => rw [applyEvs]; exact ih hp
  | case5 live id rest hm ih =>
    rw [applyEvs, if_pos (hp.mem_iff.1 hm)]
    exact ih (hp.erase id)

theorem replay_append_some {live l1 : List Nat} {e1 : List Ev} (e2 : List Ev)
    (h : applyEvs live e1 = some l1) :
    applyEvs live (e1 ++ e2) = applyEvs l1 e2 := by
  rw [replay_append, h]; rfl

theorem replay_of_perm {live P Q : List Nat} {evs : List Ev} (hp : live.Perm P)
    (h : ∃ l, applyEvs P evs = some l ∧ l.Perm Q) : ∃ l, applyEvs live evs = some l ∧ l.Perm Q := by
  obtain ⟨l, h1, h2⟩ := h
  obtain ⟨l', h3, h4⟩ := replay_perm evs hp.symm l h1
  exact ⟨l', h3, h4.symm.trans h2⟩

theorem replay_frees (evs : List Ev) (hf : AllFree evs) (live rest : List Nat) :
    live.Perm (frees evs ++ rest) →
    ∃ live', applyEvs live evs = some live' ∧ live'.Perm rest := by
  fun_induction applyEvs live evs with
  | case1 live => exact fun hp => ⟨live, rfl, by simpa using hp⟩
  | case2 live id evs hm | case3 live id evs hm ih | case4 live evs ih =>
    -- grants and refusals: not in `evs`
    obtain ⟨_, h⟩ := hf _ (List.mem_cons_self ..); cases h
  | case5 live id evs hm ih => exact fun hp => ih (allFree_cons.1 hf) (by simpa using hp.erase id)
  | case6 live id evs hm => -- released while dead: `id ∈ live` by `hp`
    exact fun hp => (hm (hp.mem_iff.2 (by simp))).elim

theorem replay_allocs (evs : List Ev) (hn : NoFree evs) (live : List Nat) :
    ∀ (k m : Nat), (∀ x ∈ live, x < k) → allocs evs = List.range' k m →
      ∃ live', applyEvs live evs = some live' ∧ live'.Perm (live ++ allocs evs) := by
  fun_induction applyEvs live evs with
  | case1 live => exact fun _ _ _ _ => ⟨live, rfl, by simp⟩
  | case2 live id evs hm => -- a live id granted: it is below `k`, the granted one is `k`
    intro k m hlt ha
    cases m with
    | zero => simp at ha
    | succ m =>
      rw [allocs_alloc, List.range'_succ, List.cons.injEq] at ha
      exact absurd (hlt id hm) (by omega)
  | case3 live id evs hm ih =>
    intro k m hlt ha
    cases m with
    | zero => simp at ha
    | succ m =>
      rw [allocs_alloc, List.range'_succ, List.cons.injEq] at ha
      obtain ⟨rfl, ha⟩ := ha
      obtain ⟨live', h1, h2⟩ := ih (noFree_tail hn) (id + 1) m
        (fun x hx => by
          rcases List.mem_cons.1 hx with rfl | hx
          · omega
          · exact Nat.lt_succ_of_lt (hlt x hx)) ha
      exact ⟨live', h1, h2.trans List.perm_middle.symm⟩
  | case4 live evs ih => exact fun k m hlt ha => ih (noFree_tail hn) k m hlt ha
  | case5 live id evs hm ih | case6 live id evs hm => -- releases: not in `evs`
    exact (hn (.free id) (by simp) id rfl).elim

theorem frees_finish {a : AllocSt} {t t' : Tree} {evs : List Ev} (hf : AllFree evs)
    (hperm : (pages t.root).Perm (frees evs ++ pages t'.root)) (hid : t'.treeId = t.treeId)
    (hp : PagesOK a t) :
    ∃ live, applyEvs (Tree.pages t) evs = some live ∧ live.Perm (Tree.pages t') ∧ PagesOK a t' := by
  unfold PagesOK at hp ⊢
  simp only [treePages_eq, hid] at hp ⊢
  have hp' : (t.treeId :: pages t.root).Perm (frees evs ++ (t.treeId :: pages t'.root)) :=
    (hperm.cons _).trans List.perm_middle.symm
  obtain ⟨live', h1, h2⟩ := replay_frees evs hf _ _ hp'
  exact ⟨live', h1, h2, (List.nodup_append.1 (hp'.nodup_iff.1 hp.1)).2.1,
    fun id hid' => hp.2 id (hp'.mem_iff.2 (List.mem_append_right _ hid'))⟩

theorem pagesL_take_drop (cs : List Node) (k : Nat) :
    pagesL cs = pagesL (cs.take k) ++ pagesL (cs.drop k) := by
  rw [← pagesL_append, List.take_append_drop]

/-- Frame rule: the segment `xs` becomes `ys`, which releases the blocks `F` (read from right to
left: takes them). -/
theorem pagesL_frame {xs ys : List Node} {F : List Nat} (pre post : List Node)
    (h : (pagesL xs).Perm (F ++ pagesL ys)) :
    (pagesL (pre ++ xs ++ post)).Perm (F ++ pagesL (pre ++ ys ++ post)) := by
  simp only [pagesL_append, List.append_assoc]
  have := (h.append_right (pagesL post)).append_left (pagesL pre)
  rw [List.append_assoc] at this
  exact this.trans (List.perm_append_comm_assoc _ _ _)

theorem pages_frame {x y : Node} {F : List Nat} (id : Nat) (vals vals' : List Nat)
    (pre post : List Node) (h : (pages x).Perm (F ++ pages y)) :
    (pages (.inode id vals (pre ++ x :: post))).Perm
      (F ++ pages (.inode id vals' (pre ++ y :: post))) := by
  have := pagesL_frame pre post (xs := [x]) (ys := [y]) (by simpa using h)
  simpa using (this.cons id).trans List.perm_middle.symm

theorem frees_trans {A B C : List Nat} {e1 e2 : List Ev} (h1 : A.Perm (frees e1 ++ B))
    (h2 : B.Perm (frees e2 ++ C)) :
    A.Perm (frees (e1 ++ e2) ++ C) := by
  rw [frees_append, List.append_assoc]
  exact h1.trans (h2.append_left _)

/-- What a walk does to the pages `P` it started from: only grants and refusals, the granted ids are
the consecutive fresh ones, and they are exactly the pages that appeared. -/
def InsPg (a : AllocSt) (P : List Nat) (a' : AllocSt) (P' : List Nat) (evs : List Ev) : Prop :=
  NoFree evs ∧ ∃ m, a'.next = a.next + m ∧ allocs evs = List.range' a.next m ∧ P'.Perm (P ++ allocs evs)

theorem InsPg.of_perm {a P a' P'} (h : P'.Perm P) (ha : a'.next = a.next) : InsPg a P a' P' [] :=
  ⟨noFree_nil, 0, ha, rfl, by simpa using h⟩

theorem InsPg.refl (a : AllocSt) (P : List Nat) : InsPg a P a P [] := .of_perm (.refl P) rfl

theorem InsPg.fail {a P a'} (ha : a'.next = a.next) : InsPg a P a' P [.allocFail] :=
  ⟨noFree_fail, 0, ha, rfl, by simp⟩

theorem InsPg.trans {a a1 a' P Q R e1 e2} (h1 : InsPg a P a1 Q e1) (h2 : InsPg a1 Q a' R e2) :
    InsPg a P a' R (e1 ++ e2) := by
  obtain ⟨n1, m1, x1, y1, z1⟩ := h1
  obtain ⟨n2, m2, x2, y2, z2⟩ := h2
  refine ⟨noFree_append n1 n2, m1 + m2, by omega, ?_, ?_⟩
  · rw [allocs_append, y1, y2, x1, List.range'_append_1]
  · rw [allocs_append, ← List.append_assoc]
    exact z2.trans (z1.append_right _)

theorem InsPg.cons {a a' P Q e} (id : Nat) (h : InsPg a P a' Q e) :
    InsPg a (id :: P) a' (id :: Q) e := by
  obtain ⟨n1, m1, x1, y1, z1⟩ := h
  exact ⟨n1, m1, x1, y1, by simpa using List.Perm.cons id z1⟩

theorem InsPg.mid {a a' e} {x y : Node} (pre post : List Node)
    (h : InsPg a (pages x) a' (pages y) e) :
    InsPg a (pagesL (pre ++ x :: post)) a' (pagesL (pre ++ y :: post)) e := by
  obtain ⟨n1, m1, x1, y1, z1⟩ := h
  refine ⟨n1, m1, x1, y1, ?_⟩
  -- the frame rule from right to left: the new segment `[y]` gives back the granted blocks and is
  -- `[x]` again
  have := pagesL_frame pre post (xs := [y]) (ys := [x])
    (by simpa using z1.trans List.perm_append_comm)
  simpa using this.trans List.perm_append_comm

theorem InsPg.split {a : AllocSt} {id : Nat} {x L R : Node} (pre post : List Node)
    (hpg : (pages L ++ pages R).Perm (pages x ++ [a.next])) :
    InsPg a (id :: pagesL (pre ++ x :: post)) { next := a.next + 1, reqs := a.reqs + 1 }
      (id :: pagesL (pre ++ L :: R :: post)) [.alloc a.next] := by
  refine ⟨noFree_alloc _, 1, rfl, by simp [List.range'_succ], ?_⟩
  -- from right to left again: `[L, R]` gives back `a.next` and is `[x]`
  have := pagesL_frame pre post (xs := [L, R]) (ys := [x]) (F := [a.next])
    (by simpa using hpg.trans List.perm_append_comm)
  simpa using (this.trans List.perm_append_comm).cons id

theorem InsPg.finish {a a' : AllocSt} {t t' : Tree} {evs : List Ev}
    (h : InsPg a (pages t.root) a' (pages t'.root) evs) (hid : t'.treeId = t.treeId)
    (hp : PagesOK a t) :
    ∃ live, applyEvs (Tree.pages t) evs = some live ∧ live.Perm (Tree.pages t') ∧
      PagesOK a' t' := by
  unfold PagesOK at hp ⊢
  simp only [treePages_eq, hid] at hp ⊢
  obtain ⟨hn, m, x1, ha, hperm⟩ := InsPg.cons t.treeId h
  obtain ⟨live', h1, h2⟩ := replay_allocs evs hn _ a.next m hp.2 ha
  refine ⟨live', h1, h2.trans hperm.symm, ?_, fun id hid' => ?_⟩
  · rw [hperm.nodup_iff, ha, List.nodup_append]
    refine ⟨hp.1, List.nodup_range' 1, fun x hx y hy => ?_⟩
    have := hp.2 x hx
    have := List.mem_range'_1.1 hy
    omega
  · rcases List.mem_append.1 (hperm.mem_iff.1 hid') with h3 | h3
    · have := hp.2 id h3; omega
    · rw [ha] at h3
      rw [x1]
      exact (List.mem_range'_1.1 h3).2

end Zix.BTree.Pg

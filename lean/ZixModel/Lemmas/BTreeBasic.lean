import ZixModel.Lemmas.BTreeDefs
/-! What the B-tree proofs share. Two conventions carry them. The lists of a parent are written cut
at the child in question, `vpre ++ vpost` and `pre ++ x :: post` with `vpre.length = pre.length`, so
that `getD`/`set`/`eraseIdx` at `pre.length` compute and the element list is
`pref pre vpre ++ x.elems ++ suff post vpost` (`interleave_mid`); an element that lies between the
separators on the two sides of the cut can only be in `x` (`Ins.bracket`). A function whose
specification needs the shape is treated by induction on the height of a well-shaped subtree
(`shape_ind`; `walk_ind` with fuel). The two binary searches of a node keep one window invariant
(`It.Win`, for a comparator whose sign is monotone along the values, `It.Mono`);
`nodeFind_hit`/`nodeFind_miss` state the result of the plain search as a cut of the values. -/
namespace Zix.BTree

section ListFacts
variable {α : Type}

theorem getD_app (pre : List α) (x : α) (post : List α) (d : α) {i : Nat} (h : pre.length = i) :
    (pre ++ x :: post).getD i d = x := by
  subst h; simp

theorem getD_app1 (pre : List α) (x y : α) (post : List α) (d : α) {i : Nat} (h : pre.length = i) :
    (pre ++ x :: y :: post).getD (i + 1) d = y := by
  subst h; simp

theorem set_app (pre : List α) (x y : α) (post : List α) {i : Nat} (h : pre.length = i) :
    (pre ++ x :: post).set i y = pre ++ y :: post := by
  subst h; simp

theorem set_app1 (pre : List α) (x z y : α) (post : List α) {i : Nat} (h : pre.length = i) :
    (pre ++ x :: z :: post).set (i + 1) y = pre ++ x :: y :: post := by
  subst h; simp

theorem eraseIdx_app (pre : List α) (x : α) (post : List α) {i : Nat} (h : pre.length = i) :
    (pre ++ x :: post).eraseIdx i = pre ++ post := by
  subst h; induction pre with
  | nil => rfl
  | cons a pre ih => simp [List.eraseIdx_cons_succ, ih]

theorem eraseIdx_app1 (pre : List α) (x y : α) (post : List α) {i : Nat} (h : pre.length = i) :
    (pre ++ x :: y :: post).eraseIdx (i + 1) = pre ++ x :: post := by
  subst h; induction pre with
  | nil => rfl
  | cons a pre ih => simp [List.eraseIdx_cons_succ, ih]

theorem getElem?_app (pre : List α) (x : α) (post : List α) {i : Nat} (h : pre.length = i) :
    (pre ++ x :: post)[i]? = some x := by
  subst h; simp

theorem split1 (l : List α) (i : Nat) (h : i < l.length) :
    ∃ pre x post,
      l = pre ++ x :: post ∧ pre.length = i ∧ pre = l.take i ∧ post = l.drop (i + 1) := by
  refine ⟨l.take i, l[i], l.drop (i + 1), ?_, ?_, rfl, rfl⟩
  · simp
  · simp; omega

theorem split2 (l : List α) (i : Nat) (h : i + 1 < l.length) :
    ∃ pre x y post, l = pre ++ x :: y :: post ∧ pre.length = i := by
  refine ⟨l.take i, l[i], l[i+1], l.drop (i + 2), ?_, ?_⟩
  · simp
  · simp; omega

theorem snoc_of_pos (l : List α) (h : 0 < l.length) : ∃ l' x, l = l' ++ [x] := by
  rcases List.eq_nil_or_concat l with rfl | ⟨l', b, rfl⟩
  · simp at h
  · exact ⟨l', b, by simp⟩

theorem getD_set_self (l : List α) (i : Nat) (x d : α) (h : i < l.length) :
    (l.set i x).getD i d = x := by
  simp [List.getD_eq_getElem?_getD, h]

end ListFacts

theorem nodup_of_sorted {l : List Nat} (h : l.Pairwise (· < ·)) : l.Nodup :=
  List.Pairwise.imp (fun hab => Nat.ne_of_lt hab) h

theorem ainsert_app (vpre vpost : List Nat) (m : Nat) {i : Nat} (h : vpre.length = i) :
    ainsert (vpre ++ vpost) i m = vpre ++ m :: vpost := by
  subst h; simp [ainsert]

theorem cinsert_app1 (pre : List Node) (x r : Node) (post : List Node) {i : Nat}
    (h : pre.length = i) :
    cinsert (pre ++ x :: post) (i + 1) r = pre ++ x :: r :: post := by
  subst h
  induction pre with
  | nil => rfl
  | cons a pre ih =>
    simp only [cinsert, List.cons_append, List.length_cons, List.take_succ_cons,
      List.drop_succ_cons] at ih ⊢
    rw [ih]

theorem ainsert_length (l : List Nat) (i x : Nat) : (ainsert l i x).length = l.length + 1 := by
  simp [ainsert, List.length_take]; omega

theorem cinsert_length (l : List Node) (i : Nat) (x : Node) :
    (cinsert l i x).length = l.length + 1 := by
  simp [cinsert, List.length_take]; omega

@[simp] theorem elems_leaf (id vs) : (Node.leaf id vs).elems = vs := by simp [Node.elems]

@[simp] theorem elems_inode (id vs cs) : (Node.inode id vs cs).elems = interleave cs vs := by
  simp [Node.elems]

theorem isLeaf_leaf (id vs) : (Node.leaf id vs).isLeaf = true := rfl
theorem isLeaf_inode (id vs cs) : (Node.inode id vs cs).isLeaf = false := rfl
theorem nVals_leaf (id vs) : (Node.leaf id vs).nVals = vs.length := rfl
theorem nVals_inode (id vs cs) : (Node.inode id vs cs).nVals = vs.length := rfl
theorem child_inode (id vs cs i) : (Node.inode id vs cs).child i = cs.getD i (.leaf 0 []) := rfl
@[simp] theorem interleave_nil (vs) : interleave [] vs = [] := by simp [interleave]

@[simp] theorem interleave_cons_cons (c cs v vs) :
    interleave (c :: cs) (v :: vs) = c.elems ++ v :: interleave cs vs := by
  simp [interleave]

@[simp] theorem interleave_cons_nil (c cs) :
    interleave (c :: cs) [] = c.elems ++ interleave cs [] := by
  simp [interleave]

/-- `c0 ++ v0 :: c1 ++ v1 :: …` for as long as both lists last. -/
def pref : List Node → List Nat → List Nat
  | c :: cs, v :: vs => c.elems ++ v :: pref cs vs
  | _, _ => []

namespace Rem
/-- what follows the elements of a child `ch` in `interleave (ch :: post) vpost` -/
def suff (post : List Node) (vpost : List Nat) : List Nat :=
  match vpost with
  | v :: vs => v :: interleave post vs
  | [] => interleave post []

theorem getElem?_app1 {α} (pre : List α) (x y : α) (post : List α) {i : Nat} (h : pre.length = i) :
    (pre ++ x :: y :: post)[i + 1]? = some y := by
  subst h; simp

@[simp] theorem suff_cons (post v vs) : suff post (v :: vs) = v :: interleave post vs := rfl
@[simp] theorem suff_nil (post) : suff post [] = interleave post [] := rfl
end Rem
open Rem (suff)

theorem interleave_cons (ch post vpost) :
    interleave (ch :: post) vpost = ch.elems ++ suff post vpost := by
  cases vpost <;> simp [suff]

theorem interleave_append (pre : List Node) (vpre : List Nat) (cs vs)
    (h : pre.length = vpre.length) :
    interleave (pre ++ cs) (vpre ++ vs) = pref pre vpre ++ interleave cs vs := by
  induction pre generalizing vpre with
  | nil => cases vpre <;> simp_all [pref]
  | cons a pre ih =>
    cases vpre with
    | nil => simp at h
    | cons v vpre => simp at h; simp [pref, ih vpre h]

theorem interleave_mid (pre : List Node) (vpre : List Nat) (x : Node) (post : List Node)
    (vpost : List Nat) (h : vpre.length = pre.length) :
    interleave (pre ++ x :: post) (vpre ++ vpost) =
      pref pre vpre ++ x.elems ++ suff post vpost := by
  rw [interleave_append _ _ _ _ h.symm, interleave_cons, List.append_assoc]

theorem interleave_merge (lc : List Node) (lv : List Nat) (v rc rv)
    (h : lc.length = lv.length + 1) :
    interleave (lc ++ rc) (lv ++ v :: rv) = interleave lc lv ++ v :: interleave rc rv := by
  obtain ⟨lc', x, rfl⟩ := snoc_of_pos lc (by omega)
  have hl : lc'.length = lv.length := by simpa using h
  have e := interleave_append lc' lv [x] [] hl
  rw [List.append_nil] at e
  rw [List.append_assoc, interleave_append _ _ _ _ hl, e]
  simp

theorem interleave_snoc (cs : List Node) (vs : List Nat) (v y) (h : cs.length = vs.length + 1) :
    interleave (cs ++ [y]) (vs ++ [v]) = interleave cs vs ++ v :: y.elems := by
  rw [interleave_merge _ _ _ _ _ h]; simp

theorem interleave_set {cs : List Node} {vs : List Nat} {i : Nat} (x : Node)
    (hi : i ≤ vs.length) (hlen : cs.length = vs.length + 1) :
    interleave (cs.set i x) vs =
      pref (cs.take i) (vs.take i) ++ x.elems ++ suff (cs.drop (i + 1)) (vs.drop i) := by
  obtain ⟨pre, y, post, e, hpre, rfl, rfl⟩ := split1 cs i (by omega)
  conv => lhs; rw [e, set_app _ _ _ _ hpre, ← List.take_append_drop i vs]
  rw [interleave_append _ _ _ _ (by simp; omega), interleave_cons]
  simp

theorem interleave_at {cs : List Node} {vs : List Nat} {i : Nat}
    (hi : i ≤ vs.length) (hlen : cs.length = vs.length + 1) :
    interleave cs vs =
      pref (cs.take i) (vs.take i) ++ (cs.getD i (.leaf 0 [])).elems ++
        suff (cs.drop (i + 1)) (vs.drop i) := by
  rw [← interleave_set _ hi hlen]
  congr 1
  simp [List.getD_eq_getElem?_getD, List.getElem?_eq_getElem (show i < cs.length by omega)]

theorem pref_all {R : Nat → Nat → Prop} {P : Nat → Prop} (hR : ∀ x v, R x v → P v → P x)
    (cs : List Node) (vs : List Nat) :
    (pref cs vs).Pairwise R → (∀ v ∈ vs, P v) → ∀ x ∈ pref cs vs, P x := by
  fun_induction pref cs vs with
  | case1 c cs v vs ih =>
    intro hp hv x hx
    rw [List.pairwise_append] at hp
    rcases List.mem_append.1 hx with h1 | h1
    · exact hR x v (hp.2.2 x h1 v (by simp)) (hv v (by simp))
    · rcases List.mem_cons.1 h1 with rfl | h2
      · exact hv x (by simp)
      · exact ih (List.pairwise_cons.1 hp.2.1).2 (fun w hw => hv w (by simp [hw])) x h2
  | case2 => nofun  -- `pref` is empty

namespace Ins

theorem setInsert_append_left (e : Nat) (A B : List Nat) (h : ∀ a ∈ A, a < e) :
    setInsert e (A ++ B) = A ++ setInsert e B := by
  fun_induction setInsert e A with
  | case1 => rfl
  | case2 x xs hlt => exact absurd (h x (by simp)) (by omega)  -- `e < x`: not in `A`
  | case3 xs => exact absurd (h e (by simp)) (Nat.lt_irrefl _)  -- `e = x`: not in `A`
  | case4 x xs h1 h2 ih => simp [setInsert, h1, h2, ih fun a ha => h a (by simp [ha])]

theorem setInsert_append_right (e b : Nat) (A B : List Nat) (h : e < b) :
    setInsert e (A ++ b :: B) = setInsert e A ++ b :: B := by
  fun_induction setInsert e A <;> simp [setInsert, *]

theorem sandwich (e : Nat) (P C S : List Nat) (hP : ∀ x ∈ P, x < e) (hS : ∀ x ∈ S, e < x) :
    (e ∈ P ++ C ++ S ↔ e ∈ C) ∧ setInsert e (P ++ C ++ S) = P ++ setInsert e C ++ S := by
  constructor
  · constructor
    · intro h
      simp only [List.mem_append] at h
      rcases h with (h | h) | h
      · have := hP e h; omega
      · exact h
      · have := hS e h; omega
    · intro h; simp [h]
  · rw [List.append_assoc, setInsert_append_left e P _ hP, List.append_assoc]
    congr 1
    cases S with
    | nil => simp
    | cons s S => exact setInsert_append_right e s C S (hS s (by simp))

theorem suff_gt {e : Nat} {cs : List Node} {vs : List Nat} (h : cs.length = vs.length)
    (hp : (suff cs vs).Pairwise (· < ·)) (hhi : ∀ v ∈ vs, e < v) : ∀ x ∈ suff cs vs, e < x := by
  intro x hx
  cases vs with
  | nil => obtain rfl : cs = [] := List.eq_nil_of_length_eq_zero h; simp at hx
  | cons v vs =>
    rw [Rem.suff_cons] at hp hx
    have hv := hhi v (by simp)
    rcases List.mem_cons.1 hx with rfl | h1
    · exact hv
    · exact Nat.lt_trans hv ((List.pairwise_cons.1 hp).1 x h1)

theorem bracket {pre post : List Node} {vpre vpost M : List Nat} {e : Nat}
    (h2 : post.length = vpost.length)
    (hp : (pref pre vpre ++ M ++ suff post vpost).Pairwise (· < ·))
    (hlo : ∀ v ∈ vpre, v < e) (hhi : ∀ v ∈ vpost, e < v) :
    (e ∈ pref pre vpre ++ M ++ suff post vpost ↔ e ∈ M) ∧
      setInsert e (pref pre vpre ++ M ++ suff post vpost) =
        pref pre vpre ++ setInsert e M ++ suff post vpost := by
  rw [List.pairwise_append, List.pairwise_append] at hp
  exact sandwich e _ M _ (pref_all (fun _ _ h hv => Nat.lt_trans h hv) _ _ hp.1.1 hlo)
    (suff_gt h2 hp.2.1 hhi)

end Ins

theorem vals_sublist : ∀ (cs : List Node) (vs : List Nat),
    vs.length ≤ cs.length → vs.Sublist (interleave cs vs) := by
  intro cs
  induction cs with
  | nil => intro vs h; cases vs <;> simp_all
  | cons c cs ih =>
    intro vs h
    cases vs with
    | nil => simp
    | cons v vs =>
      simp at h
      simp only [interleave_cons_cons]
      exact List.Sublist.trans (List.Sublist.cons_cons v (ih vs h))
        (List.sublist_append_right _ _)

theorem child_sublist {cs : List Node} {vs : List Nat} {i : Nat} (hi : i ≤ vs.length)
    (hlen : cs.length = vs.length + 1) :
    (cs.getD i (.leaf 0 [])).elems.Sublist (interleave cs vs) := by
  rw [interleave_at hi hlen]
  exact List.Sublist.trans (List.sublist_append_right _ _) (List.sublist_append_left _ _)

theorem shape_leaf {c : Cfg} {r h id vs} :
    Shape c r h (.leaf id vs) ↔
      (h = 1 ∧ vs.length ≤ c.leafMax ∧ (r = true ∨ c.leafMin ≤ vs.length)) := by
  rw [Shape.eq_1]

theorem shape_inode {c : Cfg} {r h id vs cs} :
    Shape c r h (.inode id vs cs) ↔ ∃ h', h = h' + 1 ∧ 1 ≤ vs.length ∧ vs.length ≤ c.inodeMax ∧
      (r = true ∨ c.inodeMin ≤ vs.length) ∧ cs.length = vs.length + 1 ∧ ShapeAll c h' cs := by
  rw [Shape.eq_2]

theorem shapeAll_iff {c : Cfg} {h : Nat} {cs : List Node} :
    ShapeAll c h cs ↔ ∀ x ∈ cs, Shape c false h x := by
  induction cs with
  | nil => simp [ShapeAll]
  | cons a cs ih => simp [ShapeAll, ih]

theorem shapeAll_append {c : Cfg} {h : Nat} {a b : List Node} :
    ShapeAll c h (a ++ b) ↔ ShapeAll c h a ∧ ShapeAll c h b := by
  simp only [shapeAll_iff, List.mem_append]
  constructor
  · intro H; exact ⟨fun x hx => H x (Or.inl hx), fun x hx => H x (Or.inr hx)⟩
  · rintro ⟨H1, H2⟩ x (hx | hx)
    · exact H1 x hx
    · exact H2 x hx

theorem shapeAll_cons {c : Cfg} {h : Nat} {a : Node} {b : List Node} :
    ShapeAll c h (a :: b) ↔ Shape c false h a ∧ ShapeAll c h b := by
  rw [ShapeAll.eq_2]

theorem shapeAll_nil {c : Cfg} {h : Nat} : ShapeAll c h [] := by simp [ShapeAll]

theorem shapeAll_set {c : Cfg} {h cs i x} (hs : ShapeAll c h cs) (hx : Shape c false h x) :
    ShapeAll c h (cs.set i x) := by
  rw [shapeAll_iff] at *
  intro y hy
  rcases List.mem_or_eq_of_mem_set hy with h1 | rfl
  · exact hs y h1
  · exact hx

theorem shapeAll_getD {c : Cfg} {h cs i} (hs : ShapeAll c h cs) (hi : i < cs.length) :
    Shape c false h (cs.getD i (.leaf 0 [])) :=
  shapeAll_iff.1 hs _ (by
    rw [List.getD_eq_getElem?_getD, List.getElem?_eq_getElem hi]
    exact List.getElem_mem hi)

theorem shape_inode_mk {c : Cfg} {r : Bool} {h' id : Nat} {vs : List Nat} {cs : List Node}
    (h1 : 1 ≤ vs.length) (h2 : vs.length ≤ c.inodeMax) (h3 : r = true ∨ c.inodeMin ≤ vs.length)
    (h4 : cs.length = vs.length + 1) (h5 : ShapeAll c h' cs) :
    Shape c r (h' + 1) (.inode id vs cs) :=
  shape_inode.2 ⟨h', rfl, h1, h2, h3, h4, h5⟩

theorem shape_pos {c : Cfg} {r h n} (H : Shape c r h n) : 1 ≤ h := by
  cases n with
  | leaf id vs => rw [shape_leaf] at H; omega
  | inode id vs cs =>
    obtain ⟨h', rfl, _⟩ := shape_inode.1 H
    omega

theorem shape_inode_succ {c : Cfg} {r : Bool} {k id : Nat} {vs : List Nat} {cs : List Node}
    (H : Shape c r (k + 1) (.inode id vs cs)) : 1 ≤ vs.length ∧ vs.length ≤ c.inodeMax ∧
      (r = true ∨ c.inodeMin ≤ vs.length) ∧ cs.length = vs.length + 1 ∧ ShapeAll c k cs := by
  obtain ⟨h', hh, rest⟩ := shape_inode.1 H
  cases hh; exact rest

/-- The induction hypothesis covers every well-shaped non-root node of height `k`: the children, and
what an operation puts in their place. -/
@[elab_as_elim]
theorem shape_ind {c : Cfg} {motive : Nat → Bool → Node → Prop}
    (leaf : ∀ rt id vs, Shape c rt 1 (.leaf id vs) → motive 1 rt (.leaf id vs))
    (inode : ∀ rt k id vs cs, Shape c rt (k + 1) (.inode id vs cs) → cs.length = vs.length + 1 →
      ShapeAll c k cs → (∀ x, Shape c false k x → motive k false x) →
      motive (k + 1) rt (.inode id vs cs)) :
    ∀ {h rt n}, Shape c rt h n → motive h rt n := by
  intro h
  induction h with
  | zero =>
    intro rt n hs
    have := shape_pos hs
    omega
  | succ k ih =>
    intro rt n hs
    cases n with
    | leaf id vs =>
      obtain rfl : k = 0 := by have := (shape_leaf.1 hs).1; omega
      exact leaf rt id vs hs
    | inode id vs cs =>
      obtain ⟨-, -, -, h4, h5⟩ := shape_inode_succ hs
      exact inode rt k id vs cs hs h4 h5 fun x hx => ih hx

/-- `shape_ind` for a function that walks down with fuel: at least the height, one unit per level -/
@[elab_as_elim]
theorem walk_ind {c : Cfg} {motive : Nat → Nat → Bool → Node → Prop}
    (leaf : ∀ f rt id vs, Shape c rt 1 (.leaf id vs) → motive (f + 1) 1 rt (.leaf id vs))
    (inode : ∀ f rt k id vs cs, Shape c rt (k + 1) (.inode id vs cs) → k ≤ f →
      cs.length = vs.length + 1 → ShapeAll c k cs → (∀ x, Shape c false k x → motive f k false x) →
      motive (f + 1) (k + 1) rt (.inode id vs cs)) :
    ∀ {fuel h rt n}, Shape c rt h n → h ≤ fuel → motive fuel h rt n := by
  intro fuel h rt n hs hf
  refine shape_ind (motive := fun h rt n => ∀ fuel, h ≤ fuel → motive fuel h rt n)
    (fun rt id vs hs fuel hf => ?_) (fun rt k id vs cs hs h4 h5 ih fuel hf => ?_) hs fuel hf <;>
    obtain ⟨f, rfl⟩ : ∃ f, fuel = f + 1 := ⟨fuel - 1, by omega⟩
  · exact leaf f rt id vs hs
  · exact inode f rt k id vs cs hs (Nat.le_of_succ_le_succ hf) h4 h5 fun x hx =>
      ih x hx f (Nat.le_of_succ_le_succ hf)

theorem shape_height {c : Cfg} : ∀ {h r n}, Shape c r h n → height n = h := by
  intro h r n hs
  refine shape_ind (fun _ _ _ _ => rfl) (fun rt k id vs cs _ hl hall ih => ?_) hs
  cases cs with
  | nil => simp at hl
  | cons x xs => simp [height, ih x (shapeAll_cons.1 hall).1]; omega

theorem shape_root_of {c : Cfg} {r h n} (H : Shape c false h n) : Shape c r h n := by
  cases n with
  | leaf id vs => rw [shape_leaf] at *; simp_all
  | inode id vs cs =>
    rw [shape_inode] at *
    obtain ⟨h', a, b, d, e, f⟩ := H
    exact ⟨h', a, b, d, by simp_all, f⟩

theorem shape_le_max {c : Cfg} {r : Bool} {h : Nat} {n : Node} (hs : Shape c r h n) :
    n.nVals ≤ c.maxVals n := by
  cases n with
  | leaf id vs => exact (shape_leaf.1 hs).2.1
  | inode id vs cs => obtain ⟨h', _, _, h2, _⟩ := shape_inode.1 hs; exact h2

theorem shape_lt_pow {c : Cfg} (hc : c.Valid) {r : Bool} {h : Nat} {n : Node} (hs : Shape c r h n) :
    n.nVals < 2 ^ (Nat.log2 c.leafMax + 1) := by
  have h2 : c.maxVals n ≤ c.leafMax := by
    have := hc.leaf
    unfold Cfg.maxVals; split <;> omega
  exact Nat.lt_of_le_of_lt (Nat.le_trans (shape_le_max hs) h2) Nat.lt_log2_self

theorem shape_vals_sublist {c : Cfg} {r : Bool} {h : Nat} {n : Node} (hs : Shape c r h n) :
    n.vals.Sublist n.elems := by
  cases n with
  | leaf id vs => simp [Node.vals]
  | inode id vs cs =>
    obtain ⟨h', _, _, _, _, hl, _⟩ := shape_inode.1 hs
    rw [elems_inode]
    exact vals_sublist cs vs (by omega)

@[simp] theorem can_leaf (c : Cfg) (id vs) :
    c.canRemoveFrom (.leaf id vs) = true ↔ c.leafMin < vs.length := by
  simp [Cfg.canRemoveFrom, Cfg.minVals, Cfg.maxVals, isLeaf_leaf, nVals_leaf, Cfg.leafMin]

@[simp] theorem can_inode (c : Cfg) (id vs cs) :
    c.canRemoveFrom (.inode id vs cs) = true ↔ c.inodeMin < vs.length := by
  simp [Cfg.canRemoveFrom, Cfg.minVals, Cfg.maxVals, isLeaf_inode, nVals_inode, Cfg.inodeMin]

@[simp] theorem can_leaf_false (c : Cfg) (id vs) :
    c.canRemoveFrom (.leaf id vs) = false ↔ vs.length ≤ c.leafMin := by
  rw [← Bool.not_eq_true, can_leaf]; omega

@[simp] theorem can_inode_false (c : Cfg) (id vs cs) :
    c.canRemoveFrom (.inode id vs cs) = false ↔ vs.length ≤ c.inodeMin := by
  rw [← Bool.not_eq_true, can_inode]; omega

/-- two minimal leaves and their separator fit into one (merge); a minimal leaf can take one more
value (rotation); a non-root leaf is never empty (what `begin` and `increment` need) -/
theorem leaf_fit {c : Cfg} (hc : c.Valid) :
    2 * c.leafMin + 1 ≤ c.leafMax ∧ c.leafMin + 1 ≤ c.leafMax ∧ 2 ≤ c.leafMin := by
  have := hc.inode3
  have := hc.leaf
  unfold Cfg.leafMin
  omega

theorem inode_fit {c : Cfg} (hc : c.Valid) :
    2 * c.inodeMin + 1 ≤ c.inodeMax ∧ c.inodeMin + 1 ≤ c.inodeMax ∧ 1 ≤ c.inodeMin := by
  have := hc.inode3
  unfold Cfg.inodeMin
  omega

theorem Cfg.Valid.leafMin_pos {c : Cfg} (hc : c.Valid) : 1 ≤ c.leafMin :=
  Nat.le_of_succ_le (leaf_fit hc).2.2

theorem shape_kind {c : Cfg} {r h n} (H : Shape c r h n) : n.isLeaf = true ↔ h = 1 := by
  cases n with
  | leaf id vs => rw [shape_leaf] at H; simp [isLeaf_leaf, H.1]
  | inode id vs cs =>
    obtain ⟨h', rfl, _, _, _, hl, hs⟩ := shape_inode.1 H
    cases cs with
    | nil => simp at hl
    | cons x xs =>
      rw [shapeAll_cons] at hs
      have := shape_pos hs.1
      simp [isLeaf_inode]; omega

theorem kind_contra {c : Cfg} {h id vs id' vs' cs} (H1 : Shape c false h (.leaf id vs))
    (H2 : Shape c false h (.inode id' vs' cs)) : False := by
  have a := (shape_kind H1).1 rfl
  have b := (shape_kind H2).2 a
  simp [isLeaf_inode] at b

theorem halve_lt {count k : Nat} (h0 : count ≠ 0) (hk : count < 2 ^ k) :
    ∃ k', k = k' + 1 ∧ count / 2 < 2 ^ k' ∧ count - (count / 2 + 1) < 2 ^ k' := by
  cases k with
  | zero => exact absurd hk (by omega)
  | succ k' => rw [Nat.pow_succ] at hk; exact ⟨k', rfl, by omega, by omega⟩

theorem findValue_step (vals : List Nat) (e first count cmps fuel : Nat) (h0 : count ≠ 0) :
    findValue vals e first count cmps (fuel + 1) =
      if vals.getD (first + count / 2) 0 = e then (first + count / 2, true, cmps + 1)
      else if vals.getD (first + count / 2) 0 < e then
        findValue vals e (first + count / 2 + 1) (count - (count / 2 + 1)) (cmps + 1) fuel
      else findValue vals e first (count / 2) (cmps + 1) fuel := by
  rw [findValue, if_neg h0]

namespace It

/-- sign-monotone along the list: negatives, then zeros, then positives -/
def Mono (cmp : Nat → Int) (l : List Nat) : Prop :=
  l.Pairwise (fun a b => (0 < cmp a → 0 < cmp b) ∧ (0 ≤ cmp a → 0 ≤ cmp b))

theorem Mono.get {cmp : Nat → Int} {l : List Nat} (hm : Mono cmp l) {j k a b : Nat} (hjk : j < k)
    (ha : l[j]? = some a) (hb : l[k]? = some b) :
    (0 < cmp a → 0 < cmp b) ∧ (0 ≤ cmp a → 0 ≤ cmp b) := by
  obtain ⟨hj, rfl⟩ := List.getElem?_eq_some_iff.1 ha
  obtain ⟨hk, rfl⟩ := List.getElem?_eq_some_iff.1 hb
  exact List.pairwise_iff_getElem.1 hm j k hj hk hjk

/-- invariant of the search window `[first, last)`: negatives in front of it; the value behind it is
not negative, and is a match exactly when `eq` is set -/
structure Win (cmp : Nat → Int) (vals : List Nat) (first last : Nat) (eq : Bool) : Prop where
  le : last ≤ vals.length
  neg : ∀ j v, j < first → vals[j]? = some v → cmp v < 0
  nonneg : ∀ v, vals[last]? = some v → 0 ≤ cmp v
  eq_iff : eq = true ↔ ∃ v, vals[last]? = some v ∧ cmp v = 0

section
variable {cmp : Nat → Int} {vals : List Nat} {first last m x : Nat} {eq : Bool}

theorem Win.get (W : Win cmp vals first last eq) (h : m < last) :
    vals[m]? = some (vals.getD m 0) := by
  rw [List.getD_eq_getElem?_getD, List.getElem?_eq_getElem (Nat.lt_of_lt_of_le h W.le)]
  rfl

theorem Win.right (hm : Mono cmp vals) (W : Win cmp vals first last eq) (hx : vals[m]? = some x)
    (hn : cmp x < 0) : Win cmp vals (m + 1) last eq := by
  refine ⟨W.le, fun j v hj hv => ?_, W.nonneg, W.eq_iff⟩
  by_cases hjm : j = m
  · subst hjm
    cases hx.symm.trans hv
    exact hn
  · have := (hm.get (by omega : j < m) hv hx).2; omega

theorem Win.left (hm : Mono cmp vals) (W : Win cmp vals first last eq) (hlt : m < last)
    (hx : vals[m]? = some x) (hn : ¬ cmp x < 0) :
    Win cmp vals first m (decide (cmp x = 0) || eq) := by
  refine ⟨by have := W.le; omega, W.neg, fun v hv => by cases hx.symm.trans hv; omega, ?_⟩
  rw [hx, Bool.or_eq_true, decide_eq_true_eq]
  constructor
  · rintro (hz | he)
    · exact ⟨x, rfl, hz⟩
    · obtain ⟨v, hv, hz⟩ := W.eq_iff.1 he
      have := (hm.get hlt hx hv).1
      exact ⟨x, rfl, by omega⟩
  · rintro ⟨v, hv, hz⟩
    cases hv
    exact Or.inl hz

theorem Win.neg_take (W : Win cmp vals first last eq) : ∀ v ∈ vals.take first, cmp v < 0 := by
  intro v hv
  obtain ⟨j, hj, rfl⟩ := List.mem_take_iff_getElem.1 hv
  exact W.neg j _ (by omega) (List.getElem?_eq_getElem _)

theorem Win.pos_drop {i : Nat} (hm : Mono cmp vals) (W : Win cmp vals i i false) :
    ∀ v ∈ vals.drop i, 0 < cmp v := by
  intro v hv
  obtain ⟨j, hj⟩ := List.mem_iff_getElem?.1 hv
  rw [List.getElem?_drop] at hj
  have first : ∀ x, vals[i]? = some x → 0 < cmp x := fun x hx => by
    have h1 := W.nonneg x hx
    have h2 : cmp x ≠ 0 := fun hz => Bool.noConfusion (W.eq_iff.2 ⟨x, hx, hz⟩)
    omega
  by_cases hj0 : j = 0
  · subst hj0; exact first v hj
  · have hi : i < vals.length := by have := (List.getElem?_eq_some_iff.1 hj).1; omega
    exact (hm.get (by omega : i < i + j) (List.getElem?_eq_getElem hi) hj).1
      (first _ (List.getElem?_eq_getElem hi))
end

theorem Win.init (cmp : Nat → Int) (n : Node) : Win cmp n.vals 0 (0 + n.nVals) false :=
  ⟨by simp [Node.nVals], fun _ _ h => (nomatch h), by simp [Node.nVals], by simp [Node.nVals]⟩

/-- the comparator `findValue` searches with: the sign of `v - e` -/
def cmpTo (e v : Nat) : Int := (v : Int) - e

theorem Mono.of_sorted {vals : List Nat} (e : Nat) (h : vals.Pairwise (· < ·)) :
    Mono (cmpTo e) vals :=
  h.imp fun {a b} hab => by unfold cmpTo; omega

end It
open It (Mono Win cmpTo)

/-- `findValue` keeps the window of `findPattern` (no match seen) until it hits `e` -/
theorem findValue_win {vals : List Nat} {e : Nat} (hm : Mono (cmpTo e) vals) :
    ∀ (fuel first count cmps : Nat), count < fuel →
      Win (cmpTo e) vals first (first + count) false →
      ((findValue vals e first count cmps fuel).2.1 = true →
        vals[(findValue vals e first count cmps fuel).1]? = some e) ∧
      ((findValue vals e first count cmps fuel).2.1 = false →
        Win (cmpTo e) vals (findValue vals e first count cmps fuel).1
          (findValue vals e first count cmps fuel).1 false) := by
  intro fuel
  induction fuel with
  | zero => intro first count cmps h; omega
  | succ f ih =>
    intro first count cmps hf W
    by_cases h0 : count = 0
    · subst h0
      rw [findValue, if_pos rfl]
      exact ⟨nofun, fun _ => W⟩
    · have hh : count / 2 < count := Nat.div_lt_self (Nat.pos_of_ne_zero h0) (by decide)
      have hx := W.get (m := first + count / 2) (by omega)
      rw [findValue_step _ _ _ _ _ _ h0]
      split
      · exact ⟨fun _ => ‹_ = e› ▸ hx, nofun⟩
      · split
        · refine ih _ _ _ (by omega) ?_
          rw [show first + count / 2 + 1 + (count - (count / 2 + 1)) = first + count by omega]
          exact W.right hm hx (by unfold cmpTo; omega)
        · have W' := W.left hm (by omega) hx (by unfold cmpTo; omega)
          rw [decide_eq_false (by unfold cmpTo; omega)] at W'
          exact ih _ _ _ (by omega) W'

theorem nodeFind_win {n : Node} {e : Nat} (h : n.vals.Pairwise (· < ·)) :
    ((nodeFind n e).2.1 = true → n.vals[(nodeFind n e).1]? = some e) ∧
    ((nodeFind n e).2.1 = false →
      Win (cmpTo e) n.vals (nodeFind n e).1 (nodeFind n e).1 false) :=
  findValue_win (Mono.of_sorted e h) (n.nVals + 1) 0 n.nVals 0 (Nat.lt_succ_self _) (.init _ n)

theorem nodeFind_hit {n : Node} {e i k : Nat} (hnf : nodeFind n e = (i, true, k))
    (h : n.vals.Pairwise (· < ·)) :
    ∃ vpre vpost, n.vals = vpre ++ e :: vpost ∧ vpre.length = i := by
  have F := (nodeFind_win (e := e) h).1
  rw [hnf] at F
  obtain ⟨hi, rfl⟩ := List.getElem?_eq_some_iff.1 (F rfl)
  exact ⟨_, _,
    (List.take_append_drop i n.vals).symm.trans (by rw [List.drop_eq_getElem_cons hi]),
    List.length_take_of_le (Nat.le_of_lt hi)⟩

theorem nodeFind_miss {n : Node} {e i k : Nat} (hnf : nodeFind n e = (i, false, k))
    (h : n.vals.Pairwise (· < ·)) :
    ∃ vpre vpost,
      n.vals = vpre ++ vpost ∧ vpre.length = i ∧ (∀ v ∈ vpre, v < e) ∧ ∀ v ∈ vpost, e < v := by
  have F := (nodeFind_win (e := e) h).2
  rw [hnf] at F
  have W := F rfl
  refine ⟨_, _, (List.take_append_drop i n.vals).symm, List.length_take_of_le W.le,
    fun v hv => ?_, fun v hv => ?_⟩
  · have := W.neg_take v hv
    unfold cmpTo at this
    omega
  · have := W.pos_drop (Mono.of_sorted e h) v hv
    unfold cmpTo at this
    omega

theorem nodeFind_spec (n : Node) (e : Nat) (h : n.vals.Pairwise (· < ·)) :
    ((nodeFind n e).2.1 = true →
      (nodeFind n e).1 < n.vals.length ∧ n.vals.getD (nodeFind n e).1 0 = e) ∧
    ((nodeFind n e).2.1 = false → (nodeFind n e).1 ≤ n.vals.length ∧
      (∀ v ∈ n.vals.take (nodeFind n e).1, v < e) ∧
      (∀ v ∈ n.vals.drop (nodeFind n e).1, e < v)) := by
  rcases hnf : nodeFind n e with ⟨i, eq, k⟩
  cases eq
  · obtain ⟨vpre, vpost, hv, rfl, hlo, hhi⟩ := nodeFind_miss hnf h
    simpa [hv] using And.intro hlo hhi
  · obtain ⟨vpre, vpost, hv, rfl⟩ := nodeFind_hit hnf h
    simp [hv]

theorem findValue_bounds (vals : List Nat) (e : Nat) :
    ∀ (fuel first count cmps k : Nat), count < 2 ^ k →
    (findValue vals e first count cmps fuel).1 ≤ first + count ∧
    (findValue vals e first count cmps fuel).2.2 ≤ cmps + k := by
  intro fuel
  induction fuel with
  | zero => intro first count cmps k _; simp [findValue]
  | succ fuel ih =>
    intro first count cmps k hk
    by_cases h0 : count = 0
    · rw [findValue, if_pos h0]; exact ⟨Nat.le_add_right _ _, Nat.le_add_right _ _⟩
    · rw [findValue_step _ _ _ _ _ _ h0]
      obtain ⟨k', rfl, h1, h2⟩ := halve_lt h0 hk
      split
      · exact ⟨Nat.add_le_add_left (Nat.div_le_self _ _) _, by show cmps + 1 ≤ _; omega⟩
      · split
        · have := ih (first + count / 2 + 1) (count - (count / 2 + 1)) (cmps + 1) k' h2; omega
        · have := ih first (count / 2) (cmps + 1) k' h1; omega

theorem nodeFind_bounds {n : Node} {e i k K : Nat} {eq : Bool} (hnf : nodeFind n e = (i, eq, k))
    (hk : n.nVals < 2 ^ K) :
    i ≤ n.nVals ∧ k ≤ K := by
  have := findValue_bounds n.vals e (n.nVals + 1) 0 n.nVals 0 K hk
  rw [← nodeFind, hnf] at this
  simpa using this

theorem nodeAt_nil (n : Node) : nodeAt n [] = none := by simp [nodeAt]
theorem nodeAt_single (n : Node) (i : Nat) : nodeAt n [i] = some (n, i) := by simp [nodeAt]

theorem nodeAt_cons_cons (n : Node) (i j : Nat) (r : List Nat) :
    nodeAt n (i :: j :: r) = if n.isLeaf then none else nodeAt (n.child i) (j :: r) := by
  simp [nodeAt]

theorem nodeAt_cons (n : Node) (i : Nat) (r : List Nat) (hr : r ≠ []) (hn : n.isLeaf = false) :
    nodeAt n (i :: r) = nodeAt (n.child i) r := by
  cases r with
  | nil => exact absurd rfl hr
  | cons j r => simp [nodeAt_cons_cons, hn]

end Zix.BTree

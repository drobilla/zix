import ZixModel.Generated.HashConst
/-! Model of src/hash.c (as repaired): open addressing with linear probing and tombstones.
Records and keys are natural-number ids; `keyOf : rec → key` is the user's key accessor and the
hash code of each key is whatever the user's hash function returns (arbitrary).  User callbacks
are logged as events.  Probing takes a fuel argument; that the table size `Table.n` always suffices is a theorem. -/
namespace Zix.Hash
open Zix.Generated

inductive Slot where
  | empty
  | tomb
  | live (code : Nat) (rec : Nat)
deriving Repr, DecidableEq, Inhabited

/-- User-callback events, in call order. -/
inductive Ev where
  | hash (key : Nat)            -- hash_func(key)
  | key (rec : Nat)             -- key_func(record)
  | eq (stored : Nat) (probe : Nat)  -- equal_func / predicate (key of a stored record, key being searched)
deriving Repr, DecidableEq

structure Table where
  slots : List Slot
  count : Nat
deriving Repr

def Table.n (t : Table) : Nat := t.slots.length

def new : Table := { slots := List.replicate hashMinEntries .empty, count := 0 }

def fold (code n : Nat) : Nat := code % n   -- `code & mask`, n a power of two
def nextIndex (n i : Nat) : Nat := if i + 1 = n then 0 else i + 1

/-- `find_entry` with the full-cycle guard: returns the index of the matching entry or of the first
empty slot, or `n` after a whole cycle.  `none` only if the fuel runs out. -/
def findEntry (keyOf : Nat → Nat) (slots : List Slot) (key code start : Nat) :
    (fuel i : Nat) → (evs : List Ev) → Option (Nat × List Ev)
  | 0, _, _ => none
  | fuel + 1, i, evs =>
    match slots.getD i .empty with
    | .empty => some (i, evs)
    | .tomb =>
      let j := nextIndex slots.length i
      if j = start then some (slots.length, evs) else findEntry keyOf slots key code start fuel j evs
    | .live c r =>
      if c = code then
        let evs := evs ++ [.key r, .eq (keyOf r) key]
        if keyOf r = key then some (i, evs)
        else
          let j := nextIndex slots.length i
          if j = start then some (slots.length, evs) else findEntry keyOf slots key code start fuel j evs
      else
        let j := nextIndex slots.length i
        if j = start then some (slots.length, evs) else findEntry keyOf slots key code start fuel j evs

/-- `zix_hash_plan_insert_prehashed`: index of the match, or of the first tombstone seen, or of the
first empty slot. -/
def planInsert (keyOf : Nat → Nat) (slots : List Slot) (key code start : Nat) :
    (fuel i : Nat) → (firstTomb : Option Nat) → (evs : List Ev) → Option (Nat × List Ev)
  | 0, _, _, _ => none
  | fuel + 1, i, ft, evs =>
    match slots.getD i .empty with
    | .empty => some (ft.getD i, evs)
    | .tomb =>
      let ft := if ft.isNone then some i else ft
      let j := nextIndex slots.length i
      if j = start then some (ft.getD j, evs) else planInsert keyOf slots key code start fuel j ft evs
    | .live c r =>
      if c = code then
        let evs := evs ++ [.key r, .eq (keyOf r) key]
        if keyOf r = key then some (i, evs)
        else
          let j := nextIndex slots.length i
          if j = start then some (ft.getD j, evs) else planInsert keyOf slots key code start fuel j ft evs
      else
        let j := nextIndex slots.length i
        if j = start then some (ft.getD j, evs) else planInsert keyOf slots key code start fuel j ft evs

/-- Reinsert every live entry of `old` (in index order) into a fresh table of `n` slots. -/
def rehashInto (keyOf : Nat → Nat) : (old : List Slot) → (fresh : List Slot) → (evs : List Ev) → List Slot × List Ev
  | [], fresh, evs => (fresh, evs)
  | .live c r :: rest, fresh, evs =>
    let evs := evs ++ [.key r]
    match findEntry keyOf fresh (keyOf r) c (fold c fresh.length) fresh.length (fold c fresh.length) evs with
    | some (i, evs) => rehashInto keyOf rest (fresh.set i (.live c r)) evs
    | none => rehashInto keyOf rest fresh evs
  | _ :: rest, fresh, evs => rehashInto keyOf rest fresh evs

def rehash (keyOf : Nat → Nat) (t : Table) (n : Nat) (evs : List Ev) : Table × List Ev :=
  let (s, evs) := rehashInto keyOf t.slots (List.replicate n .empty) evs
  ({ t with slots := s }, evs)

inductive Status where
  | success | exists_ | notFound | noMem | badArg
deriving Repr, DecidableEq

/-- `zix_hash_insert_at(position, record)`.  `allocOk` = the new table (if one is needed) can be allocated. -/
def insertAt (keyOf : Nat → Nat) (t : Table) (index code rec : Nat) (allocOk : Bool) (evs : List Ev) :
    Table × Status × List Ev :=
  match t.slots.getD index .empty with
  | .live _ _ => (t, .exists_, evs)
  | _ =>
    let t1 : Table := { t with slots := t.slots.set index (.live code rec) }
    let maxLoad := t.n / hashLoadDiv1 + t.n / hashLoadDiv2
    let newCount := t.count + 1
    if newCount ≥ maxLoad then
      if allocOk then
        let (t2, evs) := rehash keyOf t1 (t.n * 2) evs
        ({ t2 with count := newCount }, .success, evs)
      else (t, .noMem, evs)
    else ({ t1 with count := newCount }, .success, evs)

/-- `zix_hash_insert(record)`; `code` is what the user's hash function returns for the record's key. -/
def insert (keyOf : Nat → Nat) (t : Table) (rec code : Nat) (allocOk : Bool) : Table × Status × List Ev :=
  let key := keyOf rec
  let evs := [Ev.key rec, Ev.hash key]
  match planInsert keyOf t.slots key code (fold code t.n) t.n (fold code t.n) none evs with
  | some (i, evs) => insertAt keyOf t i code rec allocOk evs
  | none => (t, .noMem, evs)   -- unreachable (`Zix.C03.hash_plan_terminates`)

/-- `zix_hash_find(key)`: the iterator (slot index) or `none` for end. -/
def find (keyOf : Nat → Nat) (t : Table) (key code : Nat) : Option Nat × List Ev :=
  let evs := [Ev.hash key]
  match findEntry keyOf t.slots key code (fold code t.n) t.n (fold code t.n) evs with
  | some (i, evs) =>
    if i < t.n then
      match t.slots.getD i .empty with
      | .live _ _ => (some i, evs)
      | _ => (none, evs)
    else (none, evs)
  | none => (none, evs)

def recordAt (t : Table) (i : Nat) : Option Nat :=
  match t.slots.getD i .empty with
  | .live _ r => some r
  | _ => none

/-- `zix_hash_erase(i)` on a live slot `i`. -/
def erase (keyOf : Nat → Nat) (t : Table) (i : Nat) (allocOk : Bool) : Table × Status × Option Nat × List Ev :=
  let removed := recordAt t i
  let t1 : Table := { slots := t.slots.set i .tomb, count := t.count - 1 }
  if t1.count < t.n / hashShrinkDiv ∧ t.n > hashMinEntries then
    if allocOk then
      let (t2, evs) := rehash keyOf t1 (t.n / 2) []
      (t2, .success, removed, evs)
    else (t1, .noMem, removed, [])
  else (t1, .success, removed, [])

/-- `zix_hash_erase(i)` for ANY iterator value `i` (a live slot, a tombstone, an empty slot, the end
iterator `n`, or anything beyond): positions that hold no record are refused with BAD_ARG and
nothing is touched. -/
def eraseAt (keyOf : Nat → Nat) (t : Table) (i : Nat) (allocOk : Bool) : Table × Status × Option Nat × List Ev :=
  match recordAt t i with
  | none => (t, .badArg, none, [])
  | some _ => erase keyOf t i allocOk

/-- `zix_hash_remove(key)` -/
def remove (keyOf : Nat → Nat) (t : Table) (key code : Nat) (allocOk : Bool) : Table × Status × Option Nat × List Ev :=
  match find keyOf t key code with
  | (some i, evs) =>
    let (t', st, r, evs2) := erase keyOf t i allocOk
    (t', st, r, evs ++ evs2)
  | (none, evs) => (t, .notFound, none, evs)

/-- begin..end iteration: the live records in slot order. -/
def iterate (t : Table) : List Nat :=
  t.slots.filterMap (fun s => match s with | .live _ r => some r | _ => none)

end Zix.Hash

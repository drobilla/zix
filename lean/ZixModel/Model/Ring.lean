/-! Single-threaded value model of `src/ring.c` (C05).  Indices are `uint32_t`: naturals below
`2^32`, subtraction written with `+ 2^32 … %`.  `x & size_mask` is written `x % size`
(equal for the power-of-two sizes the constructor produces; the correspondence harness compares
both heads after every call, so a mask/modulo slip in the code is seen there). -/
namespace Zix.Ring

def W32 : Nat := 2 ^ 32

/-- `next_power_of_two` from ring.c, on 32-bit values. -/
def nextPow2 (size : Nat) : Nat :=
  let s := (size + W32 - 1) % W32
  let s := s ||| (s >>> 1)
  let s := s ||| (s >>> 2)
  let s := s ||| (s >>> 4)
  let s := s ||| (s >>> 8)
  let s := s ||| (s >>> 16)
  (s + 1) % W32

structure Ring where
  size : Nat
  r    : Nat          -- read_head
  w    : Nat          -- write_head
  buf  : List Nat     -- `size` bytes
deriving Repr

/-- An open write transaction: the heads captured by `zix_ring_begin_write`, `w` advanced by amends. -/
structure Tx where
  r : Nat
  w : Nat
deriving Repr

def new (s : Nat) : Ring :=
  let n := nextPow2 s
  { size := n, r := 0, w := 0, buf := List.replicate n 0 }

/-- `zix_ring_new(size)`: a size whose rounding wraps to zero (zero itself, and anything above 2^31)
is refused like an allocation failure; `none` = NULL. -/
def new? (s : Nat) : Option Ring :=
  if nextPow2 s = 0 then none else some (new s)

def reset (g : Ring) : Ring := { g with r := 0, w := 0 }

/-- `read_space_internal`: `(w - r) & mask` -/
def readSpaceAt (g : Ring) (r w : Nat) : Nat := ((w + W32 - r) % W32) % g.size
/-- `write_space_internal`: `(r - w - 1) & mask` -/
def writeSpaceAt (g : Ring) (r w : Nat) : Nat := ((r + W32 + W32 - w - 1) % W32) % g.size

def readSpace (g : Ring) : Nat := readSpaceAt g g.r g.w
def writeSpace (g : Ring) : Nat := writeSpaceAt g g.r g.w
def capacity (g : Ring) : Nat := (g.size + W32 - 1) % W32

/-- `peek_internal`: the one- or two-piece copy out of the buffer. -/
def peekAt (g : Ring) (r w n : Nat) : Option (List Nat) :=
  if readSpaceAt g r w < n then none
  else if r + n < g.size then some ((g.buf.drop r).take n)
  else
    let first := g.size - r
    some ((g.buf.drop r).take first ++ g.buf.take (n - first))

def peek (g : Ring) (n : Nat) : Option (List Nat) := peekAt g g.r g.w n

def read (g : Ring) (n : Nat) : Ring × Option (List Nat) :=
  match peekAt g g.r g.w n with
  | none => (g, none)
  | some d => ({ g with r := (g.r + n) % W32 % g.size }, some d)

def skip (g : Ring) (n : Nat) : Ring × Bool :=
  if readSpaceAt g g.r g.w < n then (g, false)
  else ({ g with r := (g.r + n) % W32 % g.size }, true)

def beginWrite (g : Ring) : Tx := { r := g.r, w := g.w }

/-- overwrite `buf[pos ..]` with `src` -/
def blit (buf : List Nat) (pos : Nat) (src : List Nat) : List Nat :=
  buf.take pos ++ src ++ buf.drop (pos + src.length)

/-- `zix_ring_amend_write`: `none` = ZIX_STATUS_NO_MEM. -/
def amend (g : Ring) (tx : Tx) (src : List Nat) : Option (Ring × Tx) :=
  let n := src.length
  if writeSpaceAt g tx.r tx.w < n then none
  else
    let e := tx.w + n
    if e ≤ g.size then
      some ({ g with buf := blit g.buf tx.w src }, { tx with w := e % g.size })
    else
      let n1 := g.size - tx.w
      let n2 := n - n1
      some ({ g with buf := blit (blit g.buf tx.w (src.take n1)) 0 (src.drop n1) }, { tx with w := n2 })

def commit (g : Ring) (tx : Tx) : Ring := { g with w := tx.w }

/-- `zix_ring_write` = begin, amend, commit; returns the number of bytes written (0 on failure). -/
def write (g : Ring) (src : List Nat) : Ring × Nat :=
  match amend g (beginWrite g) src with
  | none => (g, 0)
  | some (g', tx) => (commit g' tx, src.length)

end Zix.Ring

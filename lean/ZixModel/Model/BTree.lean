/-! Model of src/btree.c (as repaired).  A node is a leaf with values or an internal node with
values and children; every node carries the id of the memory block (page) it lives in, so that
allocation events and the white-box dump name the same pages as the implementation.  Elements are
natural numbers compared with `<` (the harness's comparator is a total order on them).

The algorithms are transcribed case by case from the C code: pre-emptive split on the way down
(median = n/2) with the post-split compare, `grow_up`, binary `find_value`/`find_pattern` with a
comparison counter, `rotate_left/right`, `merge` (its root collapse only in the pre-loop root merge), `remove_min/max`,
`fatten_child`, `replace_value` with its size / index-parity tie-break, the pre-loop root merge,
iterator paths (index per level), `increment`, `lower_bound` with the ancestor fallback.
Descent functions take a fuel argument (the height of the subtree suffices; callers pass that, or one or two more). -/
namespace Zix.BTree

inductive Node where
  | leaf (id : Nat) (vals : List Nat)
  | inode (id : Nat) (vals : List Nat) (children : List Node)
deriving Repr, Inhabited

structure Cfg where
  leafMax   : Nat
  inodeMax  : Nat
  maxHeight : Nat
deriving Repr

namespace Node
def id : Node → Nat
  | leaf i _ => i
  | inode i _ _ => i
def vals : Node → List Nat
  | leaf _ v => v
  | inode _ v _ => v
def children : Node → List Node
  | leaf _ _ => []
  | inode _ _ c => c
def isLeaf : Node → Bool
  | leaf _ _ => true
  | inode _ _ _ => false
def nVals (n : Node) : Nat := n.vals.length
def child (n : Node) (i : Nat) : Node := n.children.getD i (leaf 0 [])
end Node

def Cfg.maxVals (c : Cfg) (n : Node) : Nat := if n.isLeaf then c.leafMax else c.inodeMax
def Cfg.minVals (c : Cfg) (n : Node) : Nat := (c.maxVals n + 1) / 2 - 1
def Cfg.canRemoveFrom (c : Cfg) (n : Node) : Bool := n.nVals > c.minVals n
def Cfg.isFull (c : Cfg) (n : Node) : Bool := n.nVals == c.maxVals n

/-- `zix_btree_ainsert` -/
def ainsert (l : List Nat) (i x : Nat) : List Nat := l.take i ++ x :: l.drop i
def cinsert (l : List Node) (i : Nat) (x : Node) : List Node := l.take i ++ x :: l.drop i

/-! ### allocation oracle and events -/

structure AllocSt where
  next : Nat   -- id the next granted block gets
  reqs : Nat   -- number of requests made so far (index of the next request)
deriving Repr

inductive Ev where
  | alloc (id : Nat)
  | allocFail
  | free (id : Nat)
deriving Repr, DecidableEq

def allocPage (fails : Nat → Bool) (a : AllocSt) : AllocSt × Option Nat × List Ev :=
  if fails a.reqs then ({ a with reqs := a.reqs + 1 }, none, [.allocFail])
  else ({ next := a.next + 1, reqs := a.reqs + 1 }, some a.next, [.alloc a.next])

/-! ### searching inside a node -/

/-- `zix_btree_find_value`: binary search; returns (index, equal, comparisons). -/
def findValue (vals : List Nat) (e : Nat) : (first count cmps fuel : Nat) → Nat × Bool × Nat
  | first, _, cmps, 0 => (first, false, cmps)
  | first, count, cmps, fuel + 1 =>
    if count = 0 then (first, false, cmps)
    else
      let half := count / 2
      let i := first + half
      let v := vals.getD i 0
      if v = e then (i, true, cmps + 1)
      else if v < e then findValue vals e (first + half + 1) (count - (half + 1)) (cmps + 1) fuel
      else findValue vals e first half (cmps + 1) fuel

def nodeFind (n : Node) (e : Nat) : Nat × Bool × Nat := findValue n.vals e 0 n.nVals 0 (n.nVals + 1)

/-- `zix_btree_find_pattern`: leftmost match under a search comparator `cmp v` (sign of v vs key). -/
def findPattern (vals : List Nat) (cmp : Nat → Int) : (first count cmps : Nat) → (equal : Bool) → (fuel : Nat) → Nat × Bool × Nat
  | first, _, cmps, eq, 0 => (first, eq, cmps)
  | first, count, cmps, eq, fuel + 1 =>
    if count = 0 then (first, eq, cmps)
    else
      let half := count / 2
      let i := first + half
      let c := cmp (vals.getD i 0)
      if c = 0 then findPattern vals cmp first half (cmps + 1) true fuel
      else if c < 0 then findPattern vals cmp (first + half + 1) (count - (half + 1)) (cmps + 1) eq fuel
      else findPattern vals cmp first half (cmps + 1) eq fuel

def nodeFindPattern (n : Node) (cmp : Nat → Int) : Nat × Bool × Nat :=
  findPattern n.vals cmp 0 n.nVals 0 false (n.nVals + 1)

/-! ### insertion -/

/-- `zix_btree_split_child(n, i, lhs)` given the id of the freshly allocated right-hand page. -/
def splitChild (c : Cfg) (vals : List Nat) (children : List Node) (i : Nat) (rid : Nat) : List Nat × List Node :=
  let lhs := children.getD i (.leaf 0 [])
  let maxN := c.maxVals lhs
  let ln := maxN / 2
  match lhs with
  | .leaf lid lv =>
    let l' := Node.leaf lid (lv.take ln)
    let r' := Node.leaf rid (lv.drop (ln + 1))
    (ainsert vals i (lv.getD ln 0), cinsert (children.set i l') (i + 1) r')
  | .inode lid lv lc =>
    let l' := Node.inode lid (lv.take ln) (lc.take (ln + 1))
    let r' := Node.inode rid (lv.drop (ln + 1)) (lc.drop (ln + 1))
    (ainsert vals i (lv.getD ln 0), cinsert (children.set i l') (i + 1) r')

inductive Status where
  | success | exists_ | notFound | noMem
deriving Repr, DecidableEq

structure InsOut where
  a     : AllocSt
  node  : Node
  st    : Status
  evs   : List Ev
  cmps  : Nat

/-- The walk down of `zix_btree_insert` from a node that is not full. -/
def insertNode (c : Cfg) (fails : Nat → Bool) : (fuel : Nat) → AllocSt → Node → Nat → InsOut
  | 0, a, n, _ => ⟨a, n, .noMem, [], 0⟩
  | _ + 1, a, .leaf id vals, e =>
    let (i, eq, k) := nodeFind (.leaf id vals) e
    if eq then ⟨a, .leaf id vals, .exists_, [], k⟩
    else ⟨a, .leaf id (ainsert vals i e), .success, [], k⟩
  | fuel + 1, a, .inode id vals children, e =>
    let (i, eq, k) := nodeFind (.inode id vals children) e
    if eq then ⟨a, .inode id vals children, .exists_, [], k⟩
    else
      let child := children.getD i (.leaf 0 [])
      if c.isFull child then
        match allocPage fails a with
        | (a1, none, ev) => ⟨a1, .inode id vals children, .noMem, ev, k⟩
        | (a1, some rid, ev) =>
          let (vals', children') := splitChild c vals children i rid
          let sv := vals'.getD i 0
          -- compare with the new split value to choose a side
          if sv < e then
            let r := insertNode c fails fuel a1 (children'.getD (i + 1) (.leaf 0 [])) e
            ⟨r.a, .inode id vals' (children'.set (i + 1) r.node), r.st, ev ++ r.evs, k + 1 + r.cmps⟩
          else if sv = e then ⟨a1, .inode id vals' children', .exists_, ev, k + 1⟩
          else
            let r := insertNode c fails fuel a1 (children'.getD i (.leaf 0 [])) e
            ⟨r.a, .inode id vals' (children'.set i r.node), r.st, ev ++ r.evs, k + 1 + r.cmps⟩
      else
        let r := insertNode c fails fuel a child e
        ⟨r.a, .inode id vals (children.set i r.node), r.st, r.evs, k + r.cmps⟩

def height : Node → Nat
  | .leaf _ _ => 1
  | .inode _ _ cs => 1 + (match cs with | [] => 0 | c :: _ => height c)

structure Tree where
  root   : Node
  size   : Nat
  treeId : Nat    -- block holding the ZixBTree struct
deriving Repr

/-- `zix_btree_new`: two page requests (tree, root leaf). -/
def Tree.new (fails : Nat → Bool) (a : AllocSt) : AllocSt × Option Tree × List Ev :=
  match allocPage fails a with
  | (a1, none, e1) => (a1, none, e1)
  | (a1, some tid, e1) =>
    match allocPage fails a1 with
    | (a2, none, e2) => (a2, none, e1 ++ e2 ++ [.free tid])
    | (a2, some rid, e2) => (a2, some ⟨.leaf rid [], 0, tid⟩, e1 ++ e2)

/-- `zix_btree_insert` -/
def Tree.insert (c : Cfg) (fails : Nat → Bool) (a : AllocSt) (t : Tree) (e : Nat) :
    AllocSt × Tree × Status × List Ev × Nat :=
  if c.isFull t.root then
    -- grow_up: a new root page, then split the old root under it
    match allocPage fails a with
    | (a1, none, e1) => (a1, t, .noMem, e1, 0)
    | (a1, some nid, e1) =>
      match allocPage fails a1 with
      | (a2, none, e2) => (a2, t, .noMem, e1 ++ e2 ++ [.free nid], 0)
      | (a2, some rid, e2) =>
        let (v, cs) := splitChild c [] [t.root] 0 rid
        let r := insertNode c fails (height t.root + 2) a2 (.inode nid v cs) e
        (r.a, { t with root := r.node, size := if r.st = .success then t.size + 1 else t.size }, r.st,
          e1 ++ e2 ++ r.evs, r.cmps)
  else
    let r := insertNode c fails (height t.root + 1) a t.root e
    (r.a, { t with root := r.node, size := if r.st = .success then t.size + 1 else t.size }, r.st, r.evs, r.cmps)

/-! ### find, iterators -/

/-- An iterator: the index at every level from the root down to the level it points at;
`none` is the end iterator. -/
abbrev Iter := Option (List Nat)

/-- `zix_btree_find` -/
def findNode : (fuel : Nat) → Node → Nat → Option (List Nat) × Nat
  | 0, _, _ => (none, 0)
  | fuel + 1, n, e =>
    let (i, eq, k) := nodeFind n e
    if eq then (some [i], k)
    else if n.isLeaf then (none, k)
    else
      let (r, k') := findNode fuel (n.child i) e
      (r.map (i :: ·), k + k')

def Tree.find (t : Tree) (e : Nat) : Iter × Nat := findNode (height t.root) t.root e

/-- The node an iterator path points into, and the index there. -/
def nodeAt : Node → List Nat → Option (Node × Nat)
  | _, [] => none
  | n, [i] => some (n, i)
  | n, i :: rest => if n.isLeaf then none else nodeAt (n.child i) rest

/-- `zix_btree_get` -/
def deref (root : Node) (it : Iter) : Option Nat :=
  match it with
  | none => none
  | some p => match nodeAt root p with
    | some (n, i) => n.vals[i]?
    | none => none

/-- path of zeros down to the leftmost leaf of `n` -/
def leftmost : (fuel : Nat) → Node → List Nat
  | 0, _ => [0]
  | fuel + 1, n => if n.isLeaf then [0] else 0 :: leftmost fuel (n.child 0)

/-- `zix_btree_begin` -/
def Tree.begin (t : Tree) : Iter := if t.size = 0 then none else some (leftmost (height t.root) t.root)

/-- Pop frames while the index is at the end of its node (leaf case of `zix_btree_iter_increment`,
after the index has been advanced): `p` is the reversed path (deepest frame first). -/
def popEnds (root : Node) : (fuel : Nat) → List Nat → Iter
  | 0, _ => none
  | _, [] => none
  | fuel + 1, i :: up =>
    match nodeAt root (up.reverse ++ [i]) with
    | none => none
    | some (n, _) =>
      if i ≥ n.nVals then
        (match up with
         | [] => none
         | _ => popEnds root fuel up)
      else some (up.reverse ++ [i])

/-- `zix_btree_iter_increment` on a valid (non-end) iterator. -/
def increment (root : Node) (p : List Nat) : Iter :=
  match nodeAt root p with
  | none => none
  | some (n, i) =>
    if n.isLeaf then popEnds root (p.length + 1) ((p.dropLast ++ [i + 1]).reverse)
    else some (p.dropLast ++ [i + 1] ++ leftmost (height n) (n.child (i + 1)))

/-- `zix_btree_iter_equals` -/
def iterEquals (a b : Iter) : Bool := a == b

/-- `zix_btree_lower_bound` with search comparator `cmp v` = sign of (v compared with the key). -/
def lowerBoundNode (cmp : Nat → Int) : (fuel : Nat) → Node → List Nat × Bool × Option Nat × Nat
  -- returns (path to the leaf frame, equal-in-leaf, found_level relative, comparisons)
  | 0, _ => ([0], false, none, 0)
  | fuel + 1, n =>
    let (i, eq, k) := nodeFindPattern n cmp
    if n.isLeaf then ([i], eq, none, k)
    else
      let (p, leq, fl, k') := lowerBoundNode cmp fuel (n.child i)
      -- found_level: the deepest internal level at which a match was seen
      let fl' := match fl with
        | some d => some (d + 1)
        | none => if eq then some 0 else none
      (i :: p, leq, fl', k + k')

def Tree.lowerBound (t : Tree) (cmp : Nat → Int) : Iter × Nat :=
  let (p, leq, fl, k) := lowerBoundNode cmp (height t.root) t.root
  if leq then (some p, k)
  else
    match nodeAt t.root p with
    | none => (none, k)
    | some (n, i) =>
      if i = n.nVals then
        match fl with
        | some d => (some (p.take (d + 1)), k)          -- found on a previous level but went too far
        | none => (popEnds t.root (p.length + 1) p.reverse, k)   -- next value in an ancestor, or end
      else (some p, k)

/-! ### removal -/

def rotateLeft (vals : List Nat) (children : List Node) (i : Nat) : List Nat × List Node :=
  let lhs := children.getD i (.leaf 0 [])
  let rhs := children.getD (i + 1) (.leaf 0 [])
  let pv := vals.getD i 0
  match lhs, rhs with
  | .leaf li lv, .leaf ri rv =>
    (vals.set i (rv.headD 0), (children.set i (.leaf li (lv ++ [pv]))).set (i + 1) (.leaf ri rv.tail))
  | .inode li lv lc, .inode ri rv rc =>
    (vals.set i (rv.headD 0),
     (children.set i (.inode li (lv ++ [pv]) (lc ++ [rc.headD (.leaf 0 [])]))).set (i + 1) (.inode ri rv.tail rc.tail))
  | _, _ => (vals, children)

def rotateRight (vals : List Nat) (children : List Node) (i : Nat) : List Nat × List Node :=
  let lhs := children.getD (i - 1) (.leaf 0 [])
  let rhs := children.getD i (.leaf 0 [])
  let pv := vals.getD (i - 1) 0
  match lhs, rhs with
  | .leaf li lv, .leaf ri rv =>
    (vals.set (i - 1) (lv.getLastD 0), (children.set (i - 1) (.leaf li lv.dropLast)).set i (.leaf ri (pv :: rv)))
  | .inode li lv lc, .inode ri rv rc =>
    (vals.set (i - 1) (lv.getLastD 0),
     (children.set (i - 1) (.inode li lv.dropLast lc.dropLast)).set i (.inode ri (pv :: rv) (lc.getLastD (.leaf 0 []) :: rc)))
  | _, _ => (vals, children)

/-- `zix_btree_merge(n, i)`: returns the new values and children of `n`, and the freed page. -/
def mergeAt (vals : List Nat) (children : List Node) (i : Nat) : List Nat × List Node × Nat :=
  let lhs := children.getD i (.leaf 0 [])
  let rhs := children.getD (i + 1) (.leaf 0 [])
  let pv := vals.getD i 0
  let merged := match lhs, rhs with
    | .leaf li lv, .leaf _ rv => Node.leaf li (lv ++ pv :: rv)
    | .inode li lv lc, .inode _ rv rc => Node.inode li (lv ++ pv :: rv) (lc ++ rc)
    | l, _ => l
  (vals.eraseIdx i, (children.set i merged).eraseIdx (i + 1), rhs.id)

/-- `zix_btree_remove_min` from the subtree rooted at a node that can spare a value. -/
def removeMin (c : Cfg) : (fuel : Nat) → Node → Node × Nat × List Ev
  | 0, n => (n, 0, [])
  | _ + 1, .leaf id vals => (.leaf id vals.tail, vals.headD 0, [])
  | fuel + 1, .inode id vals children =>
    let c0 := children.getD 0 (.leaf 0 [])
    let c1 := children.getD 1 (.leaf 0 [])
    if c.canRemoveFrom c0 then
      let (n', v, ev) := removeMin c fuel c0
      (.inode id vals (children.set 0 n'), v, ev)
    else if c.canRemoveFrom c1 then
      let (vals', children') := rotateLeft vals children 0
      let (n', v, ev) := removeMin c fuel (children'.getD 0 (.leaf 0 []))
      (.inode id vals' (children'.set 0 n'), v, ev)
    else
      let (vals', children', freed) := mergeAt vals children 0
      let (n', v, ev) := removeMin c fuel (children'.getD 0 (.leaf 0 []))
      (.inode id vals' (children'.set 0 n'), v, .free freed :: ev)

/-- `zix_btree_remove_max` -/
def removeMax (c : Cfg) : (fuel : Nat) → Node → Node × Nat × List Ev
  | 0, n => (n, 0, [])
  | _ + 1, .leaf id vals => (.leaf id vals.dropLast, vals.getLastD 0, [])
  | fuel + 1, .inode id vals children =>
    let z := vals.length
    let y := z - 1
    let cz := children.getD z (.leaf 0 [])
    let cy := children.getD y (.leaf 0 [])
    if c.canRemoveFrom cz then
      let (n', v, ev) := removeMax c fuel cz
      (.inode id vals (children.set z n'), v, ev)
    else if c.canRemoveFrom cy then
      let (vals', children') := rotateRight vals children z
      let (n', v, ev) := removeMax c fuel (children'.getD z (.leaf 0 []))
      (.inode id vals' (children'.set z n'), v, ev)
    else
      let (vals', children', freed) := mergeAt vals children y
      let (n', v, ev) := removeMax c fuel (children'.getD y (.leaf 0 []))
      (.inode id vals' (children'.set y n'), v, .free freed :: ev)

/-- `zix_btree_replace_value(n, i)`: `none` when both neighbours are minimal; else the new node,
the removed value, whether the replacement came from the left child, and free events. -/
def replaceValue (c : Cfg) (fuel : Nat) (id : Nat) (vals : List Nat) (children : List Node) (i : Nat) :
    Option (Node × Nat × Bool × List Ev) :=
  let lhs := children.getD i (.leaf 0 [])
  let rhs := children.getD (i + 1) (.leaf 0 [])
  if !c.canRemoveFrom lhs && !c.canRemoveFrom rhs then none
  else
    let out := vals.getD i 0
    let fromLeft : Bool :=
      if lhs.nVals > rhs.nVals then true
      else if rhs.nVals > lhs.nVals then false
      else i % 2 = 1
    if fromLeft then
      let (l', v, ev) := removeMax c fuel lhs
      some (.inode id (vals.set i v) (children.set i l'), out, true, ev)
    else
      let (r', v, ev) := removeMin c fuel rhs
      some (.inode id (vals.set i v) (children.set (i + 1) r'), out, false, ev)

/-- `zix_btree_fatten_child(n, i)`: new values/children of `n`, the (possibly decremented) child
index, free events. -/
def fattenChild (c : Cfg) (vals : List Nat) (children : List Node) (i : Nat) :
    List Nat × List Node × Nat × List Ev :=
  if i > 0 ∧ c.canRemoveFrom (children.getD (i - 1) (.leaf 0 [])) then
    let (v, cs) := rotateRight vals children i; (v, cs, i, [])
  else if i < vals.length ∧ c.canRemoveFrom (children.getD (i + 1) (.leaf 0 [])) then
    let (v, cs) := rotateLeft vals children i; (v, cs, i, [])
  else if i = vals.length then
    let (v, cs, f) := mergeAt vals children (i - 1); (v, cs, i - 1, [.free f])
  else
    let (v, cs, f) := mergeAt vals children i; (v, cs, i, [.free f])

structure RemOut where
  node : Node
  out  : Option Nat        -- the removed element, `none` = not found
  path : List Nat          -- frames from this level down
  incr : Bool              -- the iterator must be incremented to reach the successor
  evs  : List Ev
  cmps : Nat

/-- The walk down of `zix_btree_remove` from node `n` (which can spare a value, or is the root). -/
def removeNode (c : Cfg) : (fuel : Nat) → Node → Nat → RemOut
  | 0, n, _ => ⟨n, none, [], false, [], 0⟩
  | _ + 1, .leaf id vals, e =>
    let (i, eq, k) := nodeFind (.leaf id vals) e
    if !eq then ⟨.leaf id vals, none, [], false, [], k⟩
    else
      let vals' := vals.eraseIdx i
      if i = vals'.length ∧ vals'.length > 0 then
        -- removed the largest element of this leaf: frame (i-1), then increment
        ⟨.leaf id vals', some (vals.getD i 0), [i - 1], true, [], k⟩
      else ⟨.leaf id vals', some (vals.getD i 0), [i], false, [], k⟩
  | fuel + 1, .inode id vals children, e =>
    let (i, eq, k) := nodeFind (.inode id vals children) e
    if eq then
      match replaceValue c fuel id vals children i with
      | some (n', out, fromLeft, ev) => ⟨n', some out, [i], fromLeft, ev, k⟩
      | none =>
        let (vals', children', freed) := mergeAt vals children i
        let r := removeNode c fuel (children'.getD i (.leaf 0 [])) e
        ⟨.inode id vals' (children'.set i r.node), r.out, i :: r.path, r.incr, .free freed :: r.evs, k + r.cmps⟩
    else
      let child := children.getD i (.leaf 0 [])
      if c.canRemoveFrom child then
        let r := removeNode c fuel child e
        ⟨.inode id vals (children.set i r.node), r.out, i :: r.path, r.incr, r.evs, k + r.cmps⟩
      else
        let (vals', children', i', ev) := fattenChild c vals children i
        let r := removeNode c fuel (children'.getD i' (.leaf 0 [])) e
        ⟨.inode id vals' (children'.set i' r.node), r.out, i' :: r.path, r.incr, ev ++ r.evs, k + r.cmps⟩

/-- `zix_btree_remove`: (tree, status, removed element, `next` iterator, events, comparisons). -/
def Tree.remove (c : Cfg) (t : Tree) (e : Nat) : Tree × Status × Option Nat × Iter × List Ev × Nat :=
  -- root with two minimal children: merge them into a new root first
  let (root, ev0) : Node × List Ev :=
    match t.root with
    | .inode id [v] [l, r] =>
      if !c.canRemoveFrom l && !c.canRemoveFrom r then
        let (_, cs, freed) := mergeAt [v] [l, r] 0
        (cs.getD 0 (.leaf 0 []), [.free id, .free freed])
      else (t.root, [])
    | n => (n, [])
  let r := removeNode c (height root + 1) root e
  match r.out with
  | none => ({ t with root := r.node }, .notFound, none, none, ev0 ++ r.evs, r.cmps)
  | some out =>
    let t' : Tree := { t with root := r.node, size := t.size - 1 }
    let next : Iter :=
      if t'.size = 0 then none
      else if r.incr then increment r.node r.path else some r.path
    (t', .success, some out, next, ev0 ++ r.evs, r.cmps)

/-! ### clear / free -/

/-- Order in which `zix_btree_free_children` hands elements to the destroy function, and the
pages it releases (children before the parent's own values). -/
def destroyOrder : (fuel : Nat) → Node → List Nat × List Ev
  | 0, _ => ([], [])
  | _ + 1, .leaf _ vals => (vals, [])
  | fuel + 1, .inode _ vals children =>
    let rs := children.map (fun ch => let (d, f) := destroyOrder fuel ch; (d, f ++ [Ev.free ch.id]))
    (rs.flatMap (·.1) ++ vals, rs.flatMap (·.2))

/-- `zix_btree_clear`: the root page is kept and becomes an empty leaf. -/
def Tree.clear (t : Tree) : Tree × List Nat × List Ev :=
  let (d, f) := destroyOrder (height t.root + 1) t.root
  ({ t with root := .leaf t.root.id [], size := 0 }, d, f)

/-- all values in order -/
def toList : (fuel : Nat) → Node → List Nat
  | 0, _ => []
  | _ + 1, .leaf _ vals => vals
  | fuel + 1, .inode _ vals children =>
    let rec go : List Nat → List Node → List Nat
      | v :: vs, ch :: cs => toList fuel ch ++ v :: go vs cs
      | [], ch :: _ => toList fuel ch
      | _, [] => []
    go vals children

def Tree.toList (t : Tree) : List Nat := Zix.BTree.toList (height t.root + 1) t.root

end Zix.BTree

import ZixModel.Model.Fs
/-! `zix_create_directories` over a directory tree WITH symbolic links, and generically over any
operating system.

* `createDirectoriesG stat mkdir` is the walk of src/filesystem.c written against two abstract
  system calls (`stat`: does this path string name a directory; `mkdir`: create it or fail with an
  errno) over an arbitrary state type.  The property theorems (`Properties/C15Link.lean`) are proved
  for EVERY state type and pair of calls that satisfies the laws `OsLaws` — they do not depend
  on how paths are resolved.
* `Tree`/`walk`/`statKind`/`mkdir` below are one executable instance: POSIX path resolution with
  symbolic links (relative and absolute targets, links in the middle and at the end of a path,
  dangling links, loops).  The correspondence check runs the implementation on real trees with
  symbolic links against this instance. -/
namespace Zix.FsLink
open Zix.Path

/-! ## the walk, generic in the operating system -/

/-- `zix_create_directories(dir_path)` with enough memory, against abstract `stat`/`mkdir`.
`isDir σ p` = `zix_file_type(p) == ZIX_FILE_TYPE_DIRECTORY`; `mkdir σ p` = the new state, or an errno. -/
def createDirectoriesG {σ : Type} (isDir : σ → List Nat → Bool) (mkdir : σ → List Nat → σ × Option Int)
    (t : σ) (s : List Nat) : σ × Int :=
  if s = [] then (t, 5)    -- BAD_ARG
  else
    let frames := (allFrames s).filter (fun f => f.state = .fileName)
    let rec go : List PathIter → σ → σ × Int
      | [], t => (t, 0)
      | f :: rest, t =>
        let pre := s.take f.range.2
        if isDir t pre then go rest t
        else
          match mkdir t pre with
          | (t', none) => go rest t'
          | (t', some e) => (t', Zix.Errno.errnoStatus e)
    go frames t

/-- The same walk when other threads or processes act on the file system at the same time: `env k p`
is whatever they do between the `k`-th failed "is it a directory?" test and the `mkdir(p)` that
follows it (`k` counts the mkdir calls).  An `mkdir` that fails with a status of EXISTS is followed by
a second test of the same path: if it names a directory by now, the walk goes on. -/
def createDirectoriesE {σ : Type} (isDir : σ → List Nat → Bool) (mkdir : σ → List Nat → σ × Option Int)
    (env : Nat → List Nat → σ → σ) (t : σ) (s : List Nat) : σ × Int :=
  if s = [] then (t, 5)    -- BAD_ARG
  else
    let frames := (allFrames s).filter (fun f => f.state = .fileName)
    let rec go : List PathIter → Nat → σ → σ × Int
      | [], _, t => (t, 0)
      | f :: rest, k, t =>
        let pre := s.take f.range.2
        if isDir t pre then go rest k t
        else
          match mkdir (env k pre t) pre with
          | (t', none) => go rest (k + 1) t'
          | (t', some e) =>
            if Zix.Errno.errnoStatus e = 4 ∧ isDir t' pre then go rest (k + 1) t'
            else (t', Zix.Errno.errnoStatus e)
    go frames 0 t

/-! ## an instance: a tree with symbolic links -/

inductive Kind where
  | dir | file
  | link (target : List Nat)     -- the target string, as readlink returns it
deriving Repr, DecidableEq

/-- Physical absolute paths (component lists, root = []) of everything that exists. -/
structure Tree where
  nodes : List (List (List Nat) × Kind)
  cwd   : List (List Nat)
deriving Repr, DecidableEq

def Tree.lookup (t : Tree) (p : List (List Nat)) : Option Kind :=
  if p = [] then some .dir else (t.nodes.find? (·.1 = p)).map (·.2)

/-- components of a string: split at '/', dropping empty ones -/
def comps (s : List Nat) : List (List Nat) := Zix.Fs.comps s

/-- path_resolution(7): resolve the components `cs` from the physical directory `cur`, following
every symbolic link met (the target's components are spliced in front of the rest).  The result is
the physical path of what the path names, or an errno (2 ENOENT, 20 ENOTDIR, 40 ELOOP = the fuel,
which bounds the total number of steps, ran out). -/
def walk (t : Tree) : (fuel : Nat) → (cur : List (List Nat)) → (cs : List (List Nat)) → Except Int (List (List Nat))
  | 0, _, _ => .error 40
  | _ + 1, cur, [] => .ok cur
  | fuel + 1, cur, c :: rest =>
    match t.lookup cur with
    | some .dir =>
      if c = [dot] then walk t fuel cur rest
      else if c = [dot, dot] then walk t fuel cur.dropLast rest
      else
        match t.lookup (cur ++ [c]) with
        | none => .error 2
        | some (.link tgt) => walk t fuel (if isSep (tgt.headD 0) then [] else cur) (comps tgt ++ rest)
        | some _ => walk t fuel (cur ++ [c]) rest
    | some _ => .error 20
    | none => .error 2

def walkFuel : Nat := 4096

def Tree.start (t : Tree) (s : List Nat) : List (List Nat) := if isSep (s.headD 0) then [] else t.cwd

/-- `stat(path)`: the kind of what the path names after following every link (never `link`). -/
def statKind (t : Tree) (s : List Nat) : Option Kind :=
  if s = [] then none
  else
    match walk t walkFuel (t.start s) (comps s) with
    | .ok p => t.lookup p
    | .error _ => none

def isDir (t : Tree) (s : List Nat) : Bool := statKind t s = some .dir

/-- `realpath(path)` (what `zix_canonical_path` returns): the physical path of what the path names,
`none` when it names nothing (or, with a trailing separator, something that is not a directory). -/
def canonical (t : Tree) (s : List Nat) : Option (List (List Nat)) :=
  if s = [] then none
  else
    match walk t walkFuel (t.start s) (comps s) with
    | .ok p =>
      match t.lookup p with
      | some k => if isSep (s.getLastD 0) ∧ k ≠ .dir then none else some p
      | none => none
    | .error _ => none

/-- `mkdir(path)`: the new tree, or an errno.  The parent is resolved following links; the last
component is not followed (an existing entry of any kind, dangling link included, is EEXIST).
The parent is resolved with one step less than `stat` has, so that a directory that could be created
is always within reach of a later `stat` of the same path. -/
def mkdir (t : Tree) (s : List Nat) : Tree × Option Int :=
  let cs := comps s
  match cs.getLast? with
  | none => (t, some 17)    -- "/" : exists
  | some last =>
    match walk t (walkFuel - 1) (t.start s) cs.dropLast with
    | .error e => (t, some e)
    | .ok par =>
      if t.lookup par ≠ some .dir then (t, some 20)
      else if last = [dot] ∨ last = [dot, dot] then (t, some 17)
      else if (t.lookup (par ++ [last])).isSome then (t, some 17)
      else ({ t with nodes := t.nodes ++ [(par ++ [last], .dir)] }, none)

/-- `zix_create_directories` on a tree with symbolic links. -/
def createDirectories (t : Tree) (s : List Nat) : Tree × Int :=
  createDirectoriesG isDir mkdir t s

/-- What a racing creator does: before the mkdir calls whose index is in `dirs` it creates the same
path as a directory; before those in `files` it puts a file there (modelled as a node of kind
`file` under the resolved parent, when the parent resolves and the name is free). -/
def racer (dirs files : List Nat) (k : Nat) (p : List Nat) (t : Tree) : Tree :=
  if k ∈ dirs then (mkdir t p).1
  else if k ∈ files then
    match mkdir t p with
    | (t', none) =>
      match t'.nodes.getLast? with
      | some n => { t' with nodes := t'.nodes.dropLast ++ [(n.1, Kind.file)] }
      | none => t'
    | (t', some _) => t'
  else t

/-- `zix_create_directories` on a tree with symbolic links while a racing creator is active. -/
def createDirectoriesRace (dirs files : List Nat) (t : Tree) (s : List Nat) : Tree × Int :=
  createDirectoriesE isDir mkdir (racer dirs files) t s

end Zix.FsLink

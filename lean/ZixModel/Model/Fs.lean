import ZixModel.Generated.FileType
import ZixModel.Model.Path
import ZixModel.Spec.Cpp17Path
import ZixModel.Model.Errno
/-! Model of src/filesystem.c and the query part of src/posix/filesystem_posix.c (as repaired):
`stat_file_type` over the regenerated table, `zix_file_equals` as the page loop over byte lists,
`zix_create_directories` over an abstract, symlink-free directory tree using the component
iterator model of `Model/Path.lean` (the in-place NUL chopping is rendered as prefixes). -/
namespace Zix.Fs
open Zix.Generated Zix.Path

/-! ## file type -/

/-- `stat_file_type(sb)`: first row whose mask equals `st_mode & S_IFMT`, else the fallback. -/
def statFileType (mode : Nat) : Int :=
  ((fileTypeMap.find? (fun r => r.1 = mode &&& sIFMT)).map (·.2)).getD fileTypeFallback

/-- `zix_file_type`: `none` = stat failed. -/
def fileType (mode : Option Nat) : Int :=
  match mode with
  | none => fileTypeStatFails
  | some m => statFileType m

/-! ## file_equals -/

/-- The page loop: read up to `page` bytes from each, compare. -/
def pagesEqual (page : Nat) : (fuel : Nat) → List Nat → List Nat → Bool
  | 0, _, _ => true
  | fuel + 1, a, b =>
    let ca := a.take page
    if ca = [] then (b.take page).isEmpty   -- read(a) returned 0: the second file must have ended too
    else
      let cb := b.take page
      if cb.length ≠ ca.length ∨ ca ≠ cb then false
      else pagesEqual page fuel (a.drop page) (b.drop page)

/-- The core of `zix_file_equals` for two files that could be opened: contents `ca`, `cb`, and the sizes
`sa`, `sb` that `fstat` REPORTS for them (procfs text files, FIFOs and devices report 0 whatever
they hold).  `sameInode` = both paths lead to the same file.  Contents are compared when the
reported sizes are equal or one of them is zero (a reported zero says nothing).  When no page can
be allocated the comparison runs through 512-byte stack buffers. -/
def fileEqualsSized (ca cb : List Nat) (sa sb : Nat) (sameInode : Bool) (page : Nat) (allocOk : Bool) : Bool :=
  if sameInode then true
  else if sa = sb ∨ sa = 0 ∨ sb = 0 then
    pagesEqual (if allocOk then page else 512) (ca.length + 1) ca cb
  else false

/-- `zix_file_equals(path_a, path_b)` for two different paths naming ordinary files (the reported
size is the length): `none` = the file does not exist. -/
def fileEquals (a b : Option (List Nat)) (sameInode : Bool) (page : Nat) (allocOk : Bool) : Bool :=
  match a, b with
  | some ca, some cb => fileEqualsSized ca cb ca.length cb.length sameInode page allocOk
  | _, _ => false

/-- The inode fast path of `zix_file_equals`: the two descriptors are taken for the same file when the
device numbers agree and the inode numbers are non-zero and agree. -/
def sameInode (devA inoA devB inoB : Nat) : Bool :=
  devA = devB ∧ inoA ≠ 0 ∧ inoB ≠ 0 ∧ inoA = inoB

/-! ## create_directories over an abstract tree -/

inductive Kind where
  | dir | file
deriving Repr, DecidableEq

/-- Absolute paths (component lists, root = []) of everything that exists. -/
structure Tree where
  nodes : List (List (List Nat) × Kind)
  cwd   : List (List Nat)
deriving Repr

def Tree.kindOf (t : Tree) (p : List (List Nat)) : Option Kind :=
  if p = [] then some .dir else (t.nodes.find? (·.1 = p)).map (·.2)

/-- components of a string: split at '/', dropping empty ones -/
def comps (s : List Nat) : List (List Nat) :=
  (Zix.PathSpec.splitNames (s.dropWhile isSep)).filter (· ≠ [])

/-- Physical resolution of a path string: `none` = ENOENT/ENOTDIR on the way. -/
def resolve (t : Tree) (s : List Nat) : Option (List (List Nat)) :=
  let start : List (List Nat) := if isSep (s.headD 0) then [] else t.cwd
  (comps s).foldl (fun acc c =>
    match acc with
    | none => none
    | some cur =>
      if t.kindOf cur ≠ some .dir then none
      else if c = [dot] then some cur
      else if c = [dot, dot] then some cur.dropLast
      else some (cur ++ [c])) (some start)

/-- `stat(path)`: the kind of what the path names, if anything. -/
def statKind (t : Tree) (s : List Nat) : Option Kind :=
  match resolve t s with
  | some p => t.kindOf p
  | none => none

/-- `mkdir(path)`: the new tree, or an errno. -/
def mkdir (t : Tree) (s : List Nat) : Tree × Option Int :=
  let cs := comps s
  match cs.getLast? with
  | none => (t, some 17)    -- nothing but separators ("/"), or empty: exists
  | some last =>
    -- resolve the parent
    let parentStr : List (List Nat) := cs.dropLast
    let start : List (List Nat) := if isSep (s.headD 0) then [] else t.cwd
    let parent := parentStr.foldl (fun acc c =>
      match acc with
      | none => none
      | some cur =>
        if t.kindOf cur ≠ some .dir then none
        else if c = [dot] then some cur
        else if c = [dot, dot] then some cur.dropLast
        else some (cur ++ [c])) (some start)
    match parent with
    | none => (t, some 2)
    | some par =>
      if t.kindOf par = none then (t, some 2)
      else if t.kindOf par ≠ some .dir then (t, some 20)
      else if last = [dot] ∨ last = [dot, dot] then (t, some 17)
      else if (t.kindOf (par ++ [last])).isSome then (t, some 17)
      else ({ t with nodes := t.nodes ++ [(par ++ [last], .dir)] }, none)

/-- `zix_create_directories(dir_path)` with enough memory: the final tree and the status. -/
def createDirectories (t : Tree) (s : List Nat) : Tree × Int :=
  if s = [] then (t, 5)    -- BAD_ARG
  else
    let frames := (allFrames s).filter (fun f => f.state = .fileName)
    let rec go : List PathIter → Tree → Tree × Int
      | [], t => (t, 0)
      | f :: rest, t =>
        let pre := s.take f.range.2
        if statKind t pre = some .dir then go rest t
        else
          match mkdir t pre with
          | (t', none) => go rest t'
          | (t', some e) => (t', Zix.Errno.errnoStatus e)
    go frames t

end Zix.Fs

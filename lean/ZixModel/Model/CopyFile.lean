import ZixModel.Model.Errno
/-! Model of `zix_copy_file` (src/posix/filesystem_posix.c with src/system.c, as repaired) over an
abstract file system and a fault oracle.  Every system call's outcome comes from
`fault : Call → Nat → Option Fault` — "the n-th call of this kind fails / is short like this" —
an ARBITRARY function in the theorems.  `errno` is modelled: failing calls set it, successful calls
leave it unchanged (glibc), and the "catch errno at any point" logic of `zix_system_close_fds` is
transcribed literally. -/
namespace Zix.CopyFile
open Zix.Errno

inductive Call where
  | openSrc | fstatSrc | openDst | fstatDst | ftruncate | cfr | alloc | read | write | free | fdatasync | closeDst | closeSrc
deriving Repr, DecidableEq

inductive Fault where
  | err (e : Int)        -- the call fails with this errno (alloc: any value = refused; free: the release
                         -- cannot fail, it leaves this value in errno)
  | short (n : Nat)      -- read/write/copy_file_range transfer only n bytes (n ≥ 1 honoured by the generator)
deriving Repr, DecidableEq

/-- What the destination path refers to before the call. -/
inductive Dst where
  | absent
  | file (content : List Nat)
  | sameAsSrc            -- identical path, hard link or symlink to the source: the same inode
  | directory
deriving Repr, DecidableEq

inductive SrcKind where
  | regular | directory | fifo | missing
deriving Repr, DecidableEq

structure World where
  srcKind : SrcKind
  src     : List Nat          -- source bytes
  dst     : Dst
  blk     : Nat               -- max(st_blksize) of the two files
  sizeKnown : Bool := true    -- false: `st_size` is reported as 0 whatever the content (procfs text files)
deriving Repr

structure St where
  src    : List Nat           -- source content (never written by the model, so `srcTouched` stays `false`)
  srcTouched : Bool
  dst    : Option (List Nat)  -- destination content; `none` = no such file
  errno  : Int
  counts : List (Call × Nat)  -- calls made so far, per kind
  trace  : List String
  opened : Nat                -- descriptors opened
  closed : Nat                -- descriptors closed
deriving Repr

def St.count (s : St) (c : Call) : Nat := (s.counts.lookup c).getD 0
def St.bump (s : St) (c : Call) : St :=
  { s with counts := (c, s.count c + 1) :: s.counts.filter (·.1 ≠ c) }

def callName : Call → String
  | .openSrc => "open-src" | .fstatSrc => "fstat-src" | .openDst => "open-dst"
  | .fstatDst => "fstat-dst" | .ftruncate => "ftruncate" | .cfr => "cfr" | .alloc => "alloc" | .read => "read" | .write => "write"
  | .free => "free" | .fdatasync => "fdatasync" | .closeDst => "close-dst" | .closeSrc => "close-src"

/-- Issue one call: look up its fault, count it, log it. -/
def issue (fault : Call → Nat → Option Fault) (s : St) (c : Call) : St × Option Fault :=
  let f := fault c (s.count c)
  let s := s.bump c
  let tag := match f with
    | none => "ok" | some (.err e) => s!"E{e}" | some (.short n) => s!"short{n}"
  ({ s with trace := s.trace ++ [s!"{callName c}:{tag}"] }, f)

def EXDEV : Int := 18
def EINVAL : Int := 22
def ENOSYS : Int := 38
def EEXIST : Int := 17
def EISDIR : Int := 21
def ENOENT : Int := 2
def EIO : Int := 5

def stBadArg : Int := 5
def stError : Int := 1

/-- `zix_system_close_fds(fd1, fd2)` as called by `finish_copy(dst_fd, src_fd, …)`: the destination is
closed first, then the source; `have1`/`have2` say whether the fds are open. -/
def closeFds (fault : Call → Nat → Option Fault) (s : St) (have1 have2 : Bool) : St × Int :=
  let st0 := errnoStatus s.errno
  let (s, r1fail) :=
    if have1 then
      match issue fault s .closeDst with
      | (s, some (.err e)) => ({ s with errno := e, closed := s.closed + 1 }, true)
      | (s, _) => ({ s with closed := s.closed + 1 }, false)
    else (s, false)
  let st1 := if r1fail then errnoStatus s.errno else 0
  let (s, r2fail) :=
    if have2 then
      match issue fault s .closeSrc with
      | (s, some (.err e)) => ({ s with errno := e, closed := s.closed + 1 }, true)
      | (s, _) => ({ s with closed := s.closed + 1 }, false)
    else (s, false)
  let st2 := if r2fail then errnoStatus s.errno else 0
  (s, if st0 ≠ 0 then st0 else if st1 ≠ 0 then st1 else st2)

/-- `finish_copy(dst_fd, src_fd, status)` -/
def finishCopy (fault : Call → Nat → Option Fault) (s : St) (haveDst haveSrc : Bool) (status : Int) : St × Int :=
  let (s, st0) :=
    if haveDst then
      match issue fault s .fdatasync with
      | (s, some (.err e)) => ({ s with errno := e }, errnoStatus e)
      | (s, _) => (s, 0)
    else (s, 0)
  let (s, st1) := closeFds fault s haveDst haveSrc
  (s, if status ≠ 0 then status else if st0 ≠ 0 then st0 else st1)

/-- The `copy_file_range` loop: returns the state and `some status`, or `none` for NOT_SUPPORTED. -/
def cfrLoop (fault : Call → Nat → Option Fault) : (fuel : Nat) → St → (remaining : Nat) → St × Option Int
  | 0, s, _ => (s, some 0)
  | fuel + 1, s, remaining =>
    if remaining = 0 then (s, some 0)
    else
      match issue fault s .cfr with
      | (s, some (.err e)) =>
        let s := { s with errno := e }
        let e' := if e = EXDEV ∨ e = EINVAL then ENOSYS else e
        if errnoStatus e' = 10 then (s, none) else (s, some (errnoStatus e'))
      | (s, f) =>
        let k := match f with | some (.short n) => min (max n 1) remaining | _ => remaining
        let off := s.src.length - remaining
        let s := { s with dst := some ((s.dst.getD []) ++ (s.src.drop off).take k) }
        cfrLoop fault fuel s (remaining - k)

/-- Write `chunk` completely, retrying after short writes; `some status` on failure. -/
def writeAll (fault : Call → Nat → Option Fault) : (fuel : Nat) → St → List Nat → St × Option Int
  | 0, s, _ => (s, some stError)
  | fuel + 1, s, chunk =>
    if chunk = [] then (s, none)
    else
      match issue fault s .write with
      | (s, some (.err e)) => ({ s with errno := e }, some (errnoStatus e))
      | (s, f) =>
        let k := match f with | some (.short n) => min n chunk.length | _ => chunk.length
        if k = 0 then (s, some stError)   -- a write that makes no progress
        else
          let s := { s with dst := some ((s.dst.getD []) ++ chunk.take k) }
          writeAll fault fuel s (chunk.drop k)

/-- `copy_blocks`: read a buffer, write it out, until EOF. -/
def copyBlocks (fault : Call → Nat → Option Fault) (bufSize : Nat) : (fuel : Nat) → St → (off : Nat) → St × Int
  | 0, s, _ => (s, 0)
  | fuel + 1, s, off =>
    match issue fault s .read with
    | (s, some (.err e)) => ({ s with errno := e }, errnoStatus e)
    | (s, f) =>
      let avail := min bufSize (s.src.length - off)
      let k := match f with | some (.short n) => min (max n 1) avail | _ => avail
      if k = 0 then (s, 0)    -- EOF
      else
        match writeAll fault (k + 1) s ((s.src.drop off).take k) with
        | (s, some st) => (s, st)
        | (s, none) => copyBlocks fault bufSize fuel s (off + k)

structure Result where
  status : Int
  st     : St

/-- `zix_copy_file(allocator, src, dst, options)` -/
def copyFile (w : World) (overwrite : Bool) (fault : Call → Nat → Option Fault) : Result :=
  let s0 : St := { src := w.src, srcTouched := false,
                   dst := (match w.dst with | .absent => none | .file c => some c | .sameAsSrc => some w.src | .directory => none),
                   errno := 0, counts := [], trace := [], opened := 0, closed := 0 }
  -- open source
  let (s, f) := issue fault s0 .openSrc
  let openErr : Option Int := match f with
    | some (.err e) => some e
    | _ => if w.srcKind = .missing then some ENOENT else none
  match openErr with
  | some e =>
    let (s, st) := finishCopy fault { s with errno := e } false false (errnoStatus e)
    ⟨st, s⟩
  | none =>
    let s := { s with opened := s.opened + 1 }
    match issue fault s .fstatSrc with
    | (s, some (.err e)) =>
      let (s, st) := finishCopy fault { s with errno := e } false true (errnoStatus e)
      ⟨st, s⟩
    | (s, _) =>
      if w.srcKind ≠ .regular then
        let (s, st) := finishCopy fault s false true stBadArg
        ⟨st, s⟩
      else
        -- open destination (created if absent; not truncated yet)
        let (s, f) := issue fault s .openDst
        let dstErr : Option Int := match f with
          | some (.err e) => some e
          | _ => match w.dst with
            | .directory => some (if overwrite then EISDIR else EEXIST)
            | .absent => none
            | _ => if overwrite then none else some EEXIST
        match dstErr with
        | some e =>
          let (s, st) := finishCopy fault { s with errno := e } false true (errnoStatus e)
          ⟨st, s⟩
        | none =>
          let s := { s with opened := s.opened + 1, dst := (match s.dst with | none => some [] | d => d) }
          match issue fault s .fstatDst with
          | (s, some (.err e)) =>
            let (s, st) := finishCopy fault { s with errno := e } true true (errnoStatus e)
            ⟨st, s⟩
          | (s, _) =>
            if w.dst == .sameAsSrc then
              -- the destination is the source itself: refuse, nothing has been truncated
              let (s, st) := finishCopy fault s true true stBadArg
              ⟨st, s⟩
            else
              -- discard the old content
              let (s, truncErr) : St × Option Int :=
                if overwrite then
                  match issue fault s .ftruncate with
                  | (s, some (.err e)) => ({ s with errno := e }, some e)
                  | (s, _) => ({ s with dst := some [] }, none)
                else (s, none)
              match truncErr with
              | some e =>
                let (s, st) := finishCopy fault s true true (errnoStatus e)
                ⟨st, s⟩
              | none =>
                -- user-space copy from offset `done` (used when the kernel copy is unavailable or the source
                -- reports no size): block or stack buffer, read/write loop, release, `errno = 0`, finish
                let fallback (s : St) : Result :=
                  let done := (s.dst.getD []).length
                  let (s, f) := issue fault s .alloc
                  let bufSize := match f with | some _ => 512 | none => w.blk
                  let s := { s with errno := 0 }
                  let (s, st) := copyBlocks fault bufSize (s.src.length + 2) s done
                  -- `zix_aligned_free` (always called, with NULL when the block was refused) may leave errno set
                  let s := match issue fault s .free with
                    | (s, some (.err e)) => { s with errno := e }
                    | (s, _) => s
                  let s := { s with errno := 0 }
                  let (s, st) := finishCopy fault s true true st
                  ⟨st, s⟩
                -- kernel copy, only for a source that reports a size (`st_size > 0`)
                let reported := if w.sizeKnown then s.src.length else 0
                if reported = 0 then fallback s
                else
                  let s := { s with errno := 0 }
                  match cfrLoop fault (s.src.length + 1) s reported with
                  | (s, some st) =>
                    let (s, st) := finishCopy fault s true true st
                    ⟨st, s⟩
                  | (s, none) =>
                    -- what cfr copied so far stays, the file offsets have advanced by it
                    fallback s

end Zix.CopyFile

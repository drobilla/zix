/-! Concurrent model of src/ring.c for C04: one writer thread and one reader thread over a
release/acquire memory.

**Memory model (the trusted rendering of the C11 fragment the code uses).**  The two heads are
atomic locations with a single writing thread each, so each location's modification order is its
writer's list of release stores.  A thread has a *view* of the peer's location: an index into
that list.  An acquire load may return ANY store at or after the view (stale values included),
advances the view to it, and thereby synchronises with that store and everything sequenced before
it.  Buffer bytes are plain (non-atomic) accesses.  Logical positions count bytes since creation;
position `p` lives in cell `p % N`.  A plain access is *ordered* with the conflicting access of
the other thread exactly when the acquiring side has seen a count that covers it:

* the reader may touch position `q` only if it has acquired a committed count `> q`
  (then the write of `q` happens-before the read);
* the writer may touch position `p` only if it has acquired a consumed count `> p - N`
  (then the read of the cell's previous occupant `p - N` happens-before the overwrite).

Any plain access outside these conditions is a data race and sets `race`.

**Programs.**  Each public function is the access sequence of ring.c: one acquire load of the
peer's head, a plain load of the own head (thread-local, not a shared step), per-byte buffer
accesses, one release store of the own head if it changes.  The correspondence harness checks
these sequences against the instrumented implementation.  Steps are scheduled one at a time by an
arbitrary schedule; every step of a thread with work to do is always enabled (no waiting). -/
namespace Zix.RingRA

inductive WCall where
  | write (data : List Nat)
  | begin_
  | amend (data : List Nat)
  | commit
deriving Repr

inductive RCall where
  | read (n : Nat)
  | peek (n : Nat)
  | skip (n : Nat)
deriving Repr

/-- A micro-step still to be executed by a thread inside the current call. -/
inductive Act where
  | loadAcq                       -- acquire load of the peer's head
  | bufWrite (pos : Nat) (b : Nat)
  | bufRead (pos : Nat)
  | storeRel (count : Nat)        -- release store of the own head (ghost: the logical count)
  | deliver                       -- reader: hand the bytes read so far to the caller
  | discard                       -- reader: peek finished (bytes not consumed)
deriving Repr

structure Writer where
  committed : Nat                 -- logical count published by the last release store
  seenConsumed : Nat              -- consumed count acquired most recently (value of the last acquire load)
  view : Nat                      -- index into the reader's store list
  tx : Option (Nat × Nat)         -- open transaction: (consumed count seen at begin, logical write position)
  acts : List Act                 -- rest of the current call
  calls : List WCall              -- calls still to make
  pendingCall : Option WCall      -- the call in flight: waiting for its acquire load, or an `amend` about to expand
deriving Repr

structure Reader where
  consumed : Nat
  seenCommitted : Nat
  view : Nat
  acts : List Act
  calls : List RCall
  pendingCall : Option RCall
  got : List Nat                  -- bytes read by the current call so far
deriving Repr

structure St where
  n : Nat                         -- ring size (number of cells); capacity n - 1
  cells : List (Nat × Nat)        -- cell → (logical position, byte) of the last write; length n
  wStores : List Nat              -- writer's release stores (committed counts), oldest first; starts [0]
  rStores : List Nat              -- reader's release stores (consumed counts); starts [0]
  w : Writer
  r : Reader
  output : List Nat               -- bytes delivered by successful reads, in order
  deliveries : List (Nat × List Nat)  -- (logical start position, bytes) of every successful read and peek (ghost)
  committedBytes : List Nat       -- bytes of committed writes, in order (ghost)
  stagedBytes : List Nat          -- bytes written since the last commit (ghost)
  race : Bool
deriving Repr

def init (n : Nat) (wcalls : List WCall) (rcalls : List RCall) : St :=
  { n := n, cells := List.replicate n (0, 0), wStores := [0], rStores := [0],
    w := ⟨0, 0, 0, none, [], wcalls, none⟩, r := ⟨0, 0, 0, [], rcalls, none, []⟩,
    output := [], deliveries := [], committedBytes := [], stagedBytes := [], race := false }

def byteActs (pos : Nat) (data : List Nat) : List Act :=
  (List.range data.length).map (fun i => Act.bufWrite (pos + i) (data.getD i 0))

def readActs (pos n : Nat) : List Act := (List.range n).map (fun i => Act.bufRead (pos + i))

/-- Writer: start the next call.  Calls that begin with an acquire load queue `loadAcq`. -/
def wStart (w : Writer) : Writer :=
  match w.calls with
  | [] => w
  | c :: rest =>
    match c with
    | .write _ => { w with calls := rest, pendingCall := some c, acts := [.loadAcq] }
    | .begin_ => { w with calls := rest, pendingCall := some c, acts := [.loadAcq] }
    | .amend _ =>
      -- no shared load: uses the transaction's copy of the heads
      match w.tx with
      | none => { w with calls := rest }                         -- misuse: ignored
      | some _ => { w with calls := rest, pendingCall := some c, acts := [] }
    | .commit =>
      match w.tx with
      | none => { w with calls := rest }
      | some (_, pos) => { w with calls := rest, pendingCall := none, tx := none, acts := [.storeRel pos] }

/-- Free space the writer computes from a consumed count `seen` and a write position `pos`. -/
def wSpace (n seen pos : Nat) : Nat := n - 1 - (pos - seen)

/-- Writer: after its acquire load returned `seen` (or for `amend`, using the transaction's copy),
expand the call into buffer writes and the release store. -/
def wExpand (n : Nat) (w : Writer) : Writer :=
  match w.pendingCall with
  | some (.write data) =>
    if data.length ≤ wSpace n w.seenConsumed w.committed then
      { w with pendingCall := none,
               acts := byteActs w.committed data ++ [.storeRel (w.committed + data.length)] }
    else { w with pendingCall := none, acts := [] }
  | some .begin_ => { w with pendingCall := none, tx := some (w.seenConsumed, w.committed), acts := [] }
  | some (.amend data) =>
    match w.tx with
    | some (seen, pos) =>
      if data.length ≤ wSpace n seen pos then
        { w with pendingCall := none, tx := some (seen, pos + data.length), acts := byteActs pos data }
      else { w with pendingCall := none, acts := [] }
    | none => { w with pendingCall := none, acts := [] }
  | _ => { w with pendingCall := none }

def rStart (r : Reader) : Reader :=
  match r.calls with
  | [] => r
  | c :: rest => { r with calls := rest, pendingCall := some c, acts := [.loadAcq], got := [] }

def rExpand (r : Reader) : Reader :=
  match r.pendingCall with
  | some (.read k) =>
    -- a zero-size read returns 0 right after the peek (`if (!peek_internal(...)) return 0;`): no store
    if k ≤ r.seenCommitted - r.consumed ∧ 0 < k then
      { r with pendingCall := none, acts := readActs r.consumed k ++ [.deliver, .storeRel (r.consumed + k)] }
    else { r with pendingCall := none, acts := [] }
  | some (.peek k) =>
    if k ≤ r.seenCommitted - r.consumed then
      { r with pendingCall := none, acts := readActs r.consumed k ++ [.discard] }
    else { r with pendingCall := none, acts := [] }
  | some (.skip k) =>
    if k ≤ r.seenCommitted - r.consumed then
      { r with pendingCall := none, acts := [.storeRel (r.consumed + k)] }
    else { r with pendingCall := none, acts := [] }
  | none => r

inductive Tid where
  | writer | reader
deriving Repr, DecidableEq

/-- One scheduler choice: which thread moves, and — if its step is an acquire load — how many
stores past its current view the load returns (clamped to the newest; 0 = the stalest allowed). -/
structure Choice where
  tid : Tid
  fresh : Nat
deriving Repr

def pick (view fresh len : Nat) : Nat := min (view + fresh) (len - 1)

def stepWriter (s : St) (fresh : Nat) : St :=
  let w := s.w
  match w.acts with
  | [] =>
    if w.pendingCall.isSome then { s with w := wExpand s.n w }     -- amend: no load needed
    else { s with w := wStart w }
  | .loadAcq :: rest =>
    let j := pick w.view fresh s.rStores.length
    let seen := s.rStores.getD j 0
    { s with w := wExpand s.n { w with view := j, seenConsumed := seen, acts := rest } }
  | .bufWrite pos b :: rest =>
    let seen := match w.tx with | some (sn, _) => sn | none => w.seenConsumed
    let ordered : Bool := pos < seen + s.n ∧ w.committed ≤ pos
    -- the reader must not be able to touch this cell concurrently, and the previous occupant is consumed
    { s with w := { w with acts := rest },
             cells := s.cells.set (pos % s.n) (pos, b),
             stagedBytes := s.stagedBytes ++ [b],
             race := s.race || !ordered }
  | .storeRel c :: rest =>
    { s with w := { w with acts := rest, committed := c },
             wStores := s.wStores ++ [c],
             committedBytes := s.committedBytes ++ s.stagedBytes, stagedBytes := [] }
  | _ :: rest => { s with w := { w with acts := rest } }

def stepReader (s : St) (fresh : Nat) : St :=
  let r := s.r
  match r.acts with
  | [] => { s with r := rStart r }
  | .loadAcq :: rest =>
    let j := pick r.view fresh s.wStores.length
    let seen := s.wStores.getD j 0
    { s with r := rExpand { r with view := j, seenCommitted := seen, acts := rest } }
  | .bufRead pos :: rest =>
    let cell := s.cells.getD (pos % s.n) (0, 0)
    let ordered : Bool := pos < r.seenCommitted ∧ r.consumed ≤ pos
    { s with r := { r with acts := rest, got := r.got ++ [cell.2] },
             race := s.race || !ordered }
  | .deliver :: rest =>
    { s with r := { r with acts := rest }, output := s.output ++ r.got,
             deliveries := s.deliveries ++ [(r.consumed, r.got)] }
  | .discard :: rest =>
    { s with r := { r with acts := rest, got := [] }, deliveries := s.deliveries ++ [(r.consumed, r.got)] }
  | .storeRel c :: rest =>
    { s with r := { r with acts := rest, consumed := c }, rStores := s.rStores ++ [c] }
  | _ :: rest => { s with r := { r with acts := rest } }

def step (s : St) (c : Choice) : St :=
  match c.tid with
  | .writer => stepWriter s c.fresh
  | .reader => stepReader s c.fresh

def run (s : St) (sched : List Choice) : St := sched.foldl step s

/-- Calls are used as the API intends: a plain `write` is not issued inside an open transaction,
`amend`/`commit` only inside one, `begin` only outside. -/
def wfCalls : Bool → List WCall → Bool
  | _, [] => true
  | false, .write _ :: rest => wfCalls false rest
  | false, .begin_ :: rest => wfCalls true rest
  | true, .amend _ :: rest => wfCalls true rest
  | true, .commit :: rest => wfCalls false rest
  | _, _ => false

/-- Both threads have finished all their calls. -/
def St.idle (s : St) : Bool :=
  s.w.acts.isEmpty && s.w.calls.isEmpty && s.w.pendingCall.isNone &&
  s.r.acts.isEmpty && s.r.calls.isEmpty && s.r.pendingCall.isNone

end Zix.RingRA

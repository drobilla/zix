/-! Model of src/tree.c (ZixTree, an AVL tree with parent pointers; the model does not store them, a
node's parent is the node that encloses it).  Nodes carry an identity
`id` (the C code relinks nodes, it never copies data between them) and the stored balance factor.
Insertion and removal are written recursively but make the C code's decisions: the same
rotations with the same balance updates, the successor swap, the same retrace stops — the
correspondence harness compares the whole shape (ids, keys, balances, parents as the ids of the
enclosing nodes) after every call. -/
namespace Zix.Avl

inductive T where
  | nil
  | node (l : T) (id : Nat) (key : Int) (bal : Int) (r : T)
deriving Repr, DecidableEq, Inhabited

namespace T

def bal : T → Int
  | nil => 0
  | node _ _ _ b _ => b

def height : T → Nat
  | nil => 0
  | node l _ _ _ r => max l.height r.height + 1

def size : T → Nat
  | nil => 0
  | node l _ _ _ r => l.size + r.size + 1

/-- in-order list of (id, key) -/
def inorder : T → List (Nat × Int)
  | nil => []
  | node l i k _ r => l.inorder ++ (i, k) :: r.inorder

/-- `zix_tree_free_rec`: left, right, then the node -/
def postorder : T → List (Nat × Int)
  | nil => []
  | node l i k _ r => l.postorder ++ r.postorder ++ [(i, k)]

def setBal : T → Int → T
  | nil, _ => nil
  | node l i k _ r, b => node l i k b r

end T
open T

/-- `rotate_left(p)`: q = p.right comes up; `--q.balance; p.balance = -q.balance`. -/
def rotateLeft : T → T
  | node a pi pk _ (node b qi qk qb c) =>
    let qb' := qb - 1
    node (node a pi pk (-qb') b) qi qk qb' c
  | t => t

/-- `rotate_right(p)`: q = p.left comes up; `++q.balance; p.balance = -q.balance`. -/
def rotateRight : T → T
  | node (node a qi qk qb b) pi pk _ c =>
    let qb' := qb + 1
    node a qi qk qb' (node b pi pk (-qb') c)
  | t => t

/-- `rotate_left_right(p)`: q = p.left, r = q.right comes up. -/
def rotateLeftRight : T → T
  | node (node a qi qk qb (node b ri rk rb c)) pi pk pb d =>
    let qb' := qb - (1 + max 0 rb)
    let pb' := pb + (1 - min (min 0 rb - 1) (rb + qb'))
    node (node a qi qk qb' b) ri rk 0 (node c pi pk pb' d)
  | t => t

/-- `rotate_right_left(p)`: q = p.right, r = q.left comes up. -/
def rotateRightLeft : T → T
  | node a pi pk pb (node (node b ri rk rb c) qi qk qb d) =>
    let qb' := qb + (1 - min 0 rb)
    let pb' := pb - (1 + max (max 0 rb + 1) (rb + qb'))
    node (node a pi pk pb' b) ri rk 0 (node c qi qk qb' d)
  | t => t

/-- `zix_tree_rebalance(node)` for a node whose balance is ±2 (otherwise unchanged). -/
def rebalance : T → T
  | t@(node l _ _ b r) =>
    if b = -2 then (if l.bal = 1 then rotateLeftRight t else rotateRight t)
    else if b = 2 then (if r.bal = -1 then rotateRightLeft t else rotateLeft t)
    else t
  | nil => nil

inductive InsRes where
  | exists_ (id : Nat)
  | done (t : T) (grew : Bool)
deriving Repr

/-- `zix_tree_insert`: descend (`e < key` left; `e > key` or duplicates allowed: right; else EXISTS),
attach the new leaf, retrace: each ancestor whose subtree grew has its balance adjusted; ±2 is
repaired by one rebalance and stops the retrace, 0 stops it. -/
def insertAux (dups : Bool) (e : Int) (id : Nat) : T → InsRes
  | nil => .done (node nil id e 0 nil) true
  | node l i k b r =>
    if e < k then
      match insertAux dups e id l with
      | .exists_ x => .exists_ x
      | .done l' grew =>
        if grew then
          let b' := b - 1
          if b' = -2 then .done (rebalance (node l' i k b' r)) false
          else .done (node l' i k b' r) (b' ≠ 0)
        else .done (node l' i k b r) false
    else if e > k ∨ dups then
      match insertAux dups e id r with
      | .exists_ x => .exists_ x
      | .done r' grew =>
        if grew then
          let b' := b + 1
          if b' = 2 then .done (rebalance (node l i k b' r')) false
          else .done (node l i k b' r') (b' ≠ 0)
        else .done (node l i k b r') false
    else .exists_ i

/-- The left subtree of this node lost one level: `balance += 1`, then as the C retrace does. -/
def fixLeftShrunk : T → T × Bool
  | node l i k b r =>
    let b' := b + 1
    if b' = 1 then (node l i k b' r, false)
    else if b' = 0 then (node l i k b' r, true)
    else let t := rebalance (node l i k b' r); (t, t.bal = 0)
  | nil => (nil, false)

/-- The right subtree of this node lost one level: `balance -= 1`. -/
def fixRightShrunk : T → T × Bool
  | node l i k b r =>
    let b' := b - 1
    if b' = -1 then (node l i k b' r, false)
    else if b' = 0 then (node l i k b' r, true)
    else let t := rebalance (node l i k b' r); (t, t.bal = 0)
  | nil => (nil, false)

/-- Detach the leftmost node of a non-empty tree: (its id, its key, the rest, rest lost a level). -/
def removeMin : T → Nat × Int × T × Bool
  | nil => (0, 0, nil, false)
  | node nil i k _ r => (i, k, r, true)
  | node l i k b r =>
    let (mi, mk, l', s) := removeMin l
    if s then
      let (t, s') := fixLeftShrunk (node l' i k b r)
      (mi, mk, t, s')
    else (mi, mk, node l' i k b r, false)

/-- Remove the node at the root of this subtree (the C cases: leaf, one child, successor swap). -/
def removeRoot : T → T × Bool
  | nil => (nil, false)
  | node nil _ _ _ nil => (nil, true)
  | node nil _ _ _ r => (r, true)
  | node l _ _ _ nil => (l, true)
  | node l _ _ b r =>
    let (mi, mk, r', s) := removeMin r
    if s then fixRightShrunk (node l mi mk b r') else (node l mi mk b r', false)

/-- `zix_tree_remove(iter)` for the node with this id: `none` if no such node. -/
def removeId (id : Nat) : T → Option (T × Bool)
  | nil => none
  | node l i k b r =>
    if i = id then some (removeRoot (node l i k b r))
    else
      match removeId id l with
      | some (l', s) => some (if s then fixLeftShrunk (node l' i k b r) else (node l' i k b r, false))
      | none =>
        match removeId id r with
        | some (r', s) => some (if s then fixRightShrunk (node l i k b r') else (node l i k b r', false))
        | none => none

/-- `zix_tree_find`: the first equal node met on the way down; also the number of comparisons. -/
def find (e : Int) : T → Nat → Option Nat × Nat
  | nil, n => (none, n)
  | node l i k _ r, n =>
    if e = k then (some i, n + 1)
    else if e < k then find e l (n + 1) else find e r (n + 1)

structure Tree where
  dups : Bool
  root : T
  size : Nat
  next : Nat   -- next node id
deriving Repr

def Tree.new (dups : Bool) : Tree := ⟨dups, .nil, 0, 1⟩

inductive Status where
  | success | exists_ | notFound
deriving Repr, DecidableEq

def Tree.insert (t : Tree) (e : Int) : Tree × Status × Nat :=
  match insertAux t.dups e t.next t.root with
  | .exists_ i => (t, .exists_, i)
  | .done r _ => ({ t with root := r, size := t.size + 1, next := t.next + 1 }, .success, t.next)

/-- `zix_tree_insert` when the node allocation may be refused: the search comes first (a duplicate
is EXISTS even without memory), then NO_MEM leaves the tree untouched. `none` = NO_MEM. -/
def Tree.insertMayFail (t : Tree) (e : Int) (allocOk : Bool) : Tree × Option (Status × Nat) :=
  match insertAux t.dups e t.next t.root with
  | .exists_ i => (t, some (.exists_, i))
  | .done r _ =>
    if allocOk then ({ t with root := r, size := t.size + 1, next := t.next + 1 }, some (.success, t.next))
    else (t, none)

def Tree.remove (t : Tree) (id : Nat) : Option Tree :=
  match removeId id t.root with
  | some (r, _) => some { t with root := r, size := t.size - 1 }
  | none => none

end Zix.Avl

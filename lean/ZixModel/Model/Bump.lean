/-! Model of `src/bump_allocator.c` (as repaired by the `fix:` commits recorded in
known_findings.json).  Sizes and offsets are `size_t`: natural numbers below `W = 2^64`,
and every C addition that can wrap is written with `% W` (but the test `top + offset > capacity` of
`alignedAlloc` in the subtraction form of `malloc`'s test), so that the theorems in
`Properties/C09.lean` are about what the code computes, not about ideal arithmetic. -/
namespace Zix.Bump

def W : Nat := 2 ^ 64
/-- `min_alignment = sizeof(uintmax_t)` -/
def minAlign : Nat := 8

/-- `round_up_multiple(number, factor)` for a power-of-two factor:
`(number + factor - 1) & ~(factor - 1)` in `size_t` arithmetic. -/
def roundUp (n f : Nat) : Nat :=
  let x := (n + f - 1) % W
  x - x % f

structure Block where
  off  : Nat      -- offset of the block in the buffer
  size : Nat      -- bytes requested by the caller
  id   : Nat
deriving Repr, DecidableEq

structure State where
  base : Nat        -- address of the buffer
  cap  : Nat
  top  : Nat
  last : Nat
  live : List Block -- shadow: blocks granted and not yet released by the caller
  next : Nat        -- next block id
deriving Repr

/-- `zix_bump_allocator(capacity, buffer)` -/
def init (base cap : Nat) : State :=
  let mis := base % minAlign
  let t := if mis = 0 then 0 else minAlign - mis
  { base := base, cap := cap, top := t, last := t, live := [], next := 1 }

/-- The size a request really occupies: a zero-size request still takes one aligned unit,
so that every block has its own address. -/
def realSize (size : Nat) : Nat := roundUp (if size = 0 then 1 else size) minAlign

/-- `zix_bump_malloc` on the raw state (no shadow bookkeeping). -/
def mallocRaw (s : State) (size : Nat) : State × Option Nat :=
  let rs := realSize size
  if rs < size ∨ s.top > s.cap ∨ rs > s.cap - s.top then (s, none)
  else ({ s with last := s.top, top := s.top + rs }, some s.top)

def grant (s : State) (off size : Nat) : State :=
  { s with live := ⟨off, size, s.next⟩ :: s.live, next := s.next + 1 }

def malloc (s : State) (size : Nat) : State × Option Nat :=
  match mallocRaw s size with
  | (s', some off) => (grant s' off size, some off)
  | (s', none) => (s', none)

/-- `zix_bump_calloc`: the product is checked for overflow before anything else. -/
def calloc (s : State) (nmemb size : Nat) : State × Option Nat :=
  if size ≠ 0 ∧ nmemb > (W - 1) / size then (s, none)
  else malloc s (nmemb * size)

/-- `zix_bump_realloc(ptr, size)` where `ptr` is the address `buffer + off`: only the last block,
and only while it has not been freed (`last < top`; after a free, and on a fresh allocator,
`top = last`). -/
def realloc (s : State) (off size : Nat) : State × Option Nat :=
  if off ≠ s.last ∨ s.last ≥ s.top then (s, none)
  else
    let rs := realSize size
    if rs < size ∨ s.last > s.cap ∨ rs > s.cap - s.last then (s, none)
    else
      ({ s with top := s.last + rs,
                live := s.live.map (fun b => if b.off = off then { b with size := size } else b) },
       some off)

/-- `zix_bump_free(ptr)` / `zix_bump_aligned_free(ptr)` for the live block with this id. -/
def free (s : State) (id : Nat) : State :=
  match s.live.find? (·.id = id) with
  | none => s
  | some b =>
    let s' := { s with live := s.live.filter (·.id ≠ id) }
    if b.off = s.last then { s' with top := s.last } else s'

/-- `zix_bump_aligned_alloc(alignment, size)`; `alignment` a power of two ≥ 8. -/
def alignedAlloc (s : State) (alignment size : Nat) : State × Option Nat :=
  let topAddr := (s.base + s.top) % W
  let aligned := roundUp topAddr alignment
  let offset := (aligned + W - topAddr) % W
  if s.top > s.cap ∨ offset > s.cap - s.top then (s, none)
  else
    match malloc { s with top := s.top + offset } size with
    | (s', some off) => (s', some off)
    | (_, none) => (s, none)

end Zix.Bump

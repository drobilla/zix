/-! Model of src/path.c (POSIX build, as repaired).  Strings are NUL-free byte lists; index `i ≥ length`
reads the terminating 0.  Decomposition functions return index ranges `(begin, end)` into the input,
written as the C code's scans (which separator of a leading run, backward scans for parent and
filename, last-dot rule).  `normalize` is the element-by-element algorithm of the repaired
`zix_path_lexically_normal`; `relative` uses the model of the component iterator
(`zix_path_begin`/`zix_path_next`), which `zix_create_directories` uses too. -/
namespace Zix.Path

def sep : Nat := 47
def dot : Nat := 46
def isSep (c : Nat) : Bool := c == sep

def at' (s : List Nat) (i : Nat) : Nat := s.getD i 0

abbrev Range := Nat × Nat
def Range.isEmpty (r : Range) : Bool := r.1 == r.2
def slice (s : List Nat) (r : Range) : List Nat := (s.drop r.1).take (r.2 - r.1)

/-! ## root -/

def leadingSeps (s : List Nat) : Nat := (s.takeWhile isSep).length

/-- `zix_path_root_slices(path).dir`: the LAST separator of a leading run. -/
def rootDirRange (s : List Nat) : Range :=
  let k := leadingSeps s
  if k = 0 then (0, 0) else (k - 1, k)

/-- `zix_path_root_path_range` (no root names on POSIX) -/
def rootPathRange (s : List Nat) : Range := rootDirRange s

def relativeRange (s : List Nat) : Range := ((rootPathRange s).2, s.length)

/-! ## parent, filename, stem, extension -/

/-- `while (l > p && is_dir_sep(path[l - 1])) --l;` -/
def rewindSeps (s : List Nat) (p : Nat) : Nat → Nat
  | 0 => 0
  | l + 1 => if l + 1 > p ∧ isSep (at' s l) then rewindSeps s p l else l + 1

/-- `while (l > p && !is_dir_sep(path[l])) --l;` -/
def rewindName (s : List Nat) (p : Nat) : Nat → Nat
  | 0 => 0
  | l + 1 => if l + 1 > p ∧ !isSep (at' s (l + 1)) then rewindName s p l else l + 1

/-- `while (l > p && is_dir_sep(path[l])) --l;` -/
def dropSeps (s : List Nat) (p : Nat) : Nat → Nat
  | 0 => 0
  | l + 1 => if l + 1 > p ∧ isSep (at' s (l + 1)) then dropSeps s p l else l + 1

def parentRange (s : List Nat) : Range :=
  if s.length = 0 then (0, 0)
  else
    let root := rootPathRange s
    let p := root.1
    let l0 := s.length - 1
    let l1 := if isSep (at' s l0) then rewindSeps s p l0 else rewindName s p l0
    if l1 ≤ root.2 then root
    else
      let l2 := dropSeps s p l1
      (root.1, root.1 + l2 + 1 - p)

/-- `while (f > begin && !is_dir_sep(path[f - 1])) --f;` -/
def rewindToSep (s : List Nat) (b : Nat) : Nat → Nat
  | 0 => 0
  | f + 1 => if f + 1 > b ∧ !isSep (at' s f) then rewindToSep s b f else f + 1

def filenameRange (s : List Nat) : Range :=
  if s.length = 0 then (0, 0)
  else
    let b := (rootPathRange s).2
    if b = s.length ∨ isSep (at' s (s.length - 1)) then (0, 0)
    else (rewindToSep s b (s.length - 1), s.length)

/-- `while (end > begin && path[end] != '.') --end;` (the `--end` in front of the loop is the
`name.2 - 1` that `stemRange` passes) -/
def rewindToDot (s : List Nat) (b : Nat) : Nat → Nat
  | 0 => 0
  | e + 1 => if e + 1 > b ∧ at' s (e + 1) ≠ dot then rewindToDot s b e else e + 1

def stemRange (s : List Nat) : Range :=
  let name := filenameRange s
  let stem : Range :=
    if !name.isEmpty ∧ slice s name ≠ [dot] ∧ slice s name ≠ [dot, dot] then
      (name.1, rewindToDot s name.1 (name.2 - 1))
    else name
  if stem.isEmpty then name else stem

def extensionRange (s : List Nat) : Range :=
  let stem := stemRange s
  if stem.isEmpty then stem else (stem.2, s.length)

def isAbsolute (s : List Nat) : Bool := isSep (at' s 0)

/-- The nine `has_*` / `is_absolute` answers in the harness's order. -/
def queries (s : List Nat) : List Bool :=
  [ !(rootPathRange s).isEmpty, false, !(rootDirRange s).isEmpty, at' s (rootPathRange s).2 ≠ 0,
    !(parentRange s).isEmpty, !(filenameRange s).isEmpty, !(stemRange s).isEmpty, !(extensionRange s).isEmpty,
    isAbsolute s ]

/-! ## the component iterator -/

inductive IterState where
  | rootName | rootDir | fileName | end_
deriving Repr, DecidableEq

structure PathIter where
  range : Range
  state : IterState
deriving Repr, DecidableEq

def skipSeps (s : List Nat) : (fuel i : Nat) → Nat
  | 0, i => i
  | fuel + 1, i => if isSep (at' s i) then skipSeps s fuel (i + 1) else i

def skipName (s : List Nat) : (fuel i : Nat) → Nat
  | 0, i => i
  | fuel + 1, i => if at' s i ≠ 0 ∧ !isSep (at' s i) then skipName s fuel (i + 1) else i

/-- `zix_path_next` -/
def next (s : List Nat) (it : PathIter) : PathIter :=
  if it.state = .rootName ∧ isSep (at' s it.range.2) then
    ⟨(it.range.2, it.range.2 + 1), .rootDir⟩
  else
    let it : PathIter :=
      if it.state = .rootName ∨ it.state = .rootDir then
        let e := skipSeps s (s.length + 1) it.range.2
        ⟨(e, e), .fileName⟩
      else it
    if it.state = .fileName then
      let b := it.range.2
      if at' s b = 0 then ⟨(b, it.range.2), .end_⟩
      else
        let b' := skipSeps s (s.length + 1) b
        let e := skipName s (s.length + 1) b'
        ⟨(b', e), .fileName⟩
    else it

/-- `zix_path_begin` (the root name is always empty on POSIX) -/
def begin (s : List Nat) : PathIter := next s ⟨(0, 0), .rootName⟩

/-- All frames the iterator yields before END. -/
def frames (s : List Nat) : (fuel : Nat) → PathIter → List PathIter
  | 0, _ => []
  | fuel + 1, it => if it.state = .end_ then [] else it :: frames s fuel (next s it)

def allFrames (s : List Nat) : List PathIter := frames s (s.length + 2) (begin s)

/-! ## lexically_normal -/

/-- The elements of the relative part, each with "a separator follows". -/
def relElems (s : List Nat) : (fuel i : Nat) → List (List Nat × Bool)
  | 0, _ => []
  | fuel + 1, i =>
    if i ≥ s.length then []
    else
      let e := skipName s (s.length + 1) i
      let nxt := skipSeps s (s.length + 1) e
      ((s.drop i).take (e - i), decide (e < s.length)) :: relElems s fuel nxt

/-- Start of the last element of `out` (after `rootLen`), ignoring one trailing separator. -/
def lastElemStart (out : List Nat) (rootLen : Nat) : Nat :=
  let lastEnd := if out.length > rootLen ∧ out.getLastD 0 = sep then out.length - 1 else out.length
  let body := (out.take lastEnd).drop rootLen
  -- length of the suffix of `body` without separator
  lastEnd - (body.reverse.takeWhile (fun c => c ≠ sep)).length

def lastIsUp (out : List Nat) (rootLen : Nat) : Bool :=
  let lastEnd := if out.length > rootLen ∧ out.getLastD 0 = sep then out.length - 1 else out.length
  let st := lastElemStart out rootLen
  (out.take lastEnd).drop st == [dot, dot]

def normStep (rootLen : Nat) (hasRootDir : Bool) (out : List Nat) (el : List Nat × Bool) : List Nat :=
  let (name, followed) := el
  if name = [dot] then out
  else if name = [dot, dot] then
    if out.length > rootLen ∧ !lastIsUp out rootLen then out.take (lastElemStart out rootLen)
    else if !hasRootDir ∨ out.length > rootLen then out ++ [dot, dot] ++ (if followed then [sep] else [])
    else out
  else out ++ name ++ (if followed then [sep] else [])

/-- `zix_path_lexically_normal` when memory is available. -/
def normalize (s : List Nat) : List Nat :=
  if s = [] then []
  else
    let root := rootPathRange s
    let rootOut : List Nat := (slice s root).map (fun c => if isSep c then sep else c)
    let rootLen := rootOut.length
    let hasRootDir := rootLen > 0 ∧ rootOut.getLastD 0 = sep
    let out := (relElems s (s.length + 1) root.2).foldl (normStep rootLen hasRootDir) rootOut
    -- remove any separator after a trailing dot-dot entry
    let r := out.length
    let out :=
      if r ≥ rootLen + 3 ∧ out.getD (r - 1) 0 = sep ∧ out.getD (r - 2) 0 = dot ∧ out.getD (r - 3) 0 = dot ∧
         (r = rootLen + 3 ∨ out.getD (r - 4) 0 = sep) then out.dropLast
      else out
    if out = [] then [dot] else out

/-! ## join, preferred -/

/-- `zix_path_join(a, b)`; `none` stands for a NULL argument. -/
def join (a b : Option (List Nat)) : List Nat :=
  let bs := b.getD []
  match a with
  | none => bs
  | some [] => bs
  | some as =>
    let bHasRootDir := !(rootDirRange bs).isEmpty
    let aHasFilename := !(filenameRange as).isEmpty
    if bHasRootDir then bs
    else if aHasFilename then as ++ [sep] ++ bs
    else as ++ bs

def preferred (s : List Nat) : List Nat := s.map (fun c => if isSep c then sep else c)

/-! ## lexically_relative -/

def rangeText (s : List Nat) (it : PathIter) : List Nat := slice s it.range

/-- Advance both iterators while they are at equal elements. -/
def skipCommon (p b : List Nat) : (fuel : Nat) → PathIter → PathIter → PathIter × PathIter
  | 0, x, y => (x, y)
  | fuel + 1, x, y =>
    if x.state ≠ .end_ ∧ y.state ≠ .end_ ∧ x.state = y.state ∧ rangeText p x = rangeText b y then
      skipCommon p b fuel (next p x) (next b y)
    else (x, y)

/-- Count `..` and real names among the remaining elements of base. -/
def countBase (b : List Nat) : (fuel : Nat) → PathIter → Nat × Nat → Nat × Nat
  | 0, _, acc => acc
  | fuel + 1, y, (up, names) =>
    if y.state = .end_ then (up, names)
    else
      let t := rangeText b y
      let acc := if t = [] then (up, names) else if t = [dot, dot] then (up + 1, names) else if t = [dot] then (up, names) else (up, names + 1)
      countBase b fuel (next b y) acc

/-- `zix_path_lexically_relative(path, base)` when memory is available; `none` = NULL. -/
def relative (p b : List Nat) : Option (List Nat) :=
  let pHasRoot := !(rootDirRange p).isEmpty
  let bHasRoot := !(rootDirRange b).isEmpty
  if isAbsolute p ≠ isAbsolute b ∨ (!pHasRoot ∧ bHasRoot) then none
  else
    let (x, y) := skipCommon p b (p.length + b.length + 4) (begin p) (begin b)
    if (x.state = .end_ ∧ y.state = .end_) ∨ (x.range.isEmpty ∧ y.state = .end_) then some [dot]
    else
      let (nUp, nNames) := countBase b (b.length + 2) y (0, 0)
      if nUp > nNames then none
      else
        let up := if x.state = .rootDir then 0 else nNames - nUp
        if up = 0 ∧ (x.state = .end_ ∨ x.range.isEmpty) then some [dot]
        else
          let ups : List Nat := (List.replicate up [dot, dot]).foldl (fun acc u => if acc = [] then u else acc ++ [sep] ++ u) []
          if x.range.1 < p.length then
            let suffix := p.drop x.range.1
            some (if ups = [] then suffix else ups ++ [sep] ++ suffix)
          else if up > 0 ∧ x.state ≠ .end_ then some (ups ++ [p.getLastD 0])
          else some ups

end Zix.Path

import ZixModel.Lemmas.BTreeDefs
/-! Specification vocabulary of the B-tree beyond the invariants of `Lemmas/BTreeDefs`: histories of
insert / remove / clear calls, run on the implementation model and on the abstract sorted set (C01),
and what a valid iterator and a compatible search comparator are (C02). Definitions only. -/
namespace Zix.C01
open Zix.BTree

inductive Op where
  | ins (e : Nat)
  | rm (e : Nat)
  | clear
deriving Repr

/-- One call on the implementation model: new allocator state, new tree, status. -/
def stepImpl (c : Cfg) (fails : Nat → Bool) (s : AllocSt × Tree) : Op → (AllocSt × Tree) × Status
  | .ins e => let r := s.2.insert c fails s.1 e; ((r.1, r.2.1), r.2.2.1)
  | .rm e => let r := s.2.remove c e; ((s.1, r.1), r.2.1)
  | .clear => ((s.1, (s.2.clear).1), .success)

/-- The abstract sorted set: a strictly ascending list. -/
def stepSpec (l : List Nat) : Op → List Nat × Status
  | .ins e => if e ∈ l then (l, .exists_) else (setInsert e l, .success)
  | .rm e => if e ∈ l then (l.erase e, .success) else (l, .notFound)
  | .clear => ([], .success)

def runImpl (c : Cfg) (fails : Nat → Bool) : (AllocSt × Tree) → List Op → (AllocSt × Tree) × List Status
  | s, [] => (s, [])
  | s, op :: ops =>
    let (s', st) := stepImpl c fails s op
    let (s'', sts) := runImpl c fails s' ops
    (s'', st :: sts)

def runSpec : List Nat → List Op → List Nat × List Status
  | l, [] => (l, [])
  | l, op :: ops =>
    let (l', st) := stepSpec l op
    let (l'', sts) := runSpec l' ops
    (l'', st :: sts)

end Zix.C01

namespace Zix.C02
open Zix.BTree

/-- A valid iterator: its path leads to a node and an index of one of that node's values. -/
def ValidIter (root : Node) (p : List Nat) : Prop := ∃ n i, nodeAt root p = some (n, i) ∧ i < n.nVals

/-- A search comparator compatible with the tree order: its sign is monotone along the sorted
elements (those with `cmp < 0` come first, then those with `cmp = 0`, then `cmp > 0`). Each
disjunction is an implication, `0 < cmp a → 0 < cmp b` and `0 ≤ cmp a → 0 ≤ cmp b`: the form the
proofs use (`It.Mono`, `It.Mono.of_compatible`). -/
def Compatible (cmp : Nat → Int) (l : List Nat) : Prop :=
  ∀ a b, a ∈ l → b ∈ l → a < b → (cmp a ≤ 0 ∨ 0 < cmp b) ∧ (cmp a < 0 ∨ 0 ≤ cmp b)

end Zix.C02

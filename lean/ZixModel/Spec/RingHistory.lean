import ZixModel.Model.Ring
/-! Histories of a ZixRing used from one thread: the calls of the interface with their return
values, the implementation model driven by them (`Impl`, which also holds the open write
transaction), the abstract bounded byte FIFO with transactions they are specified by (`Spec`), and
both run over a list of calls. -/
namespace Zix.C05
open Zix.Ring

inductive Op where
  | write (d : List Nat)
  | read (n : Nat)
  | peek (n : Nat)
  | skip (n : Nat)
  | reset
  | begin_
  | amend (d : List Nat)
  | commit
  | abandon            -- the transaction object is simply dropped
deriving Repr

inductive Out where
  | wrote (n : Nat)            -- return value of zix_ring_write
  -- read / peek: the bytes delivered, `none` = returned 0, nothing transferred
  | data (bytes : Option (List Nat))
  | skipped (ok : Bool)
  | done                       -- reset, begin, commit, abandon
  | amended (ok : Bool)        -- SUCCESS / NO_MEM
  -- outside the API contract (write/reset/begin inside an open transaction, amend/commit without
  -- one): ignored
  | misuse
deriving Repr, DecidableEq

structure Impl where
  g  : Ring
  tx : Option Tx
deriving Repr

def Impl.step (s : Impl) : Op → Impl × Out
  | .write d =>
    match s.tx with
    | some _ => (s, .misuse)
    | none => let r := write s.g d; ({ s with g := r.1 }, .wrote r.2)
  | .read n => let r := read s.g n; ({ s with g := r.1 }, .data r.2)
  | .peek n => (s, .data (peek s.g n))
  | .skip n => let r := skip s.g n; ({ s with g := r.1 }, .skipped r.2)
  | .reset =>
    match s.tx with
    | some _ => (s, .misuse)
    | none => ({ s with g := reset s.g }, .done)
  | .begin_ =>
    match s.tx with
    | some _ => (s, .misuse)
    | none => ({ s with tx := some (beginWrite s.g) }, .done)
  | .amend d =>
    match s.tx with
    | none => (s, .misuse)
    | some tx =>
      match amend s.g tx d with
      | some (g', tx') => (⟨g', some tx'⟩, .amended true)
      | none => (s, .amended false)
  | .commit =>
    match s.tx with
    | none => (s, .misuse)
    | some tx => (⟨commit s.g tx, none⟩, .done)
  | .abandon => ({ s with tx := none }, .done)

def Impl.run (s : Impl) : List Op → Impl × List Out
  | [] => (s, [])
  | op :: rest => let r := s.step op; let r2 := Impl.run r.1 rest; (r2.1, r.2 :: r2.2)

structure Spec where
  cap : Nat
  q : List Nat                         -- oldest first
  -- open transaction: bytes amended so far, free space seen at begin
  pending : Option (List Nat × Nat)
deriving Repr

def Spec.step (s : Spec) : Op → Spec × Out
  | .write d =>
    match s.pending with
    | some _ => (s, .misuse)
    | none => if d.length ≤ s.cap - s.q.length then ({ s with q := s.q ++ d }, .wrote d.length) else (s, .wrote 0)
  | .read n => if n ≤ s.q.length then ({ s with q := s.q.drop n }, .data (some (s.q.take n))) else (s, .data none)
  | .peek n => if n ≤ s.q.length then (s, .data (some (s.q.take n))) else (s, .data none)
  | .skip n => if n ≤ s.q.length then ({ s with q := s.q.drop n }, .skipped true) else (s, .skipped false)
  | .reset =>
    match s.pending with
    | some _ => (s, .misuse)
    | none => ({ s with q := [] }, .done)
  | .begin_ =>
    match s.pending with
    | some _ => (s, .misuse)
    | none => ({ s with pending := some ([], s.cap - s.q.length) }, .done)
  | .amend d =>
    match s.pending with
    | none => (s, .misuse)
    | some (p, budget) =>
      if p.length + d.length ≤ budget then ({ s with pending := some (p ++ d, budget) }, .amended true)
      else (s, .amended false)
  | .commit =>
    match s.pending with
    | none => (s, .misuse)
    | some (p, _) => ({ s with q := s.q ++ p, pending := none }, .done)
  | .abandon => ({ s with pending := none }, .done)

def Spec.run (s : Spec) : List Op → Spec × List Out
  | [] => (s, [])
  | op :: rest => let r := s.step op; let r2 := Spec.run r.1 rest; (r2.1, r.2 :: r2.2)

def Impl.new (s : Nat) : Impl := ⟨Ring.new s, none⟩

def Spec.new (s : Nat) : Spec := ⟨nextPow2 s - 1, [], none⟩

end Zix.C05

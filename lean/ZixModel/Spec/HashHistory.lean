import ZixModel.Spec.Hash
/-! Histories of a ZixHash table: the operations of the interface with their outputs, the
implementation model driven by them (`step`, `run`), and the abstract map the outputs are compared
with: a list of live records with distinct keys, what it allows a call to return (`Allowed`), how a
call changes it (`specNext`) and when a table represents it (`Abs`). -/
namespace Zix.C03
open Zix.Hash

inductive Op where
  | insert (rec : Nat) (allocOk : Bool)
  | find (key : Nat)
  | remove (key : Nat) (allocOk : Bool)
  -- `zix_hash_erase` at ANY iterator value (slot index; `n` = end)
  | eraseAt (i : Nat) (allocOk : Bool)
deriving Repr

inductive Out where
  | status (s : Status)
  | found (rec : Nat)
  | absent
  | removed (s : Status) (rec : Nat)
deriving Repr, DecidableEq

/-- The implementation model driven by an operation. -/
def step (keyOf codeOf : Nat → Nat) (t : Table) : Op → Table × Out
  | .insert rec ok =>
    let r := insert keyOf t rec (codeOf (keyOf rec)) ok
    (r.1, .status r.2.1)
  | .find key =>
    match (find keyOf t key (codeOf key)).1 with
    | some i =>
      match recordAt t i with
      | some r => (t, .found r)
      | none => (t, .absent)
    | none => (t, .absent)
  | .remove key ok =>
    let r := remove keyOf t key (codeOf key) ok
    match r.2.2.1 with
    | some rec => (r.1, .removed r.2.1 rec)
    | none => (r.1, .status r.2.1)
  | .eraseAt i ok =>
    let r := eraseAt keyOf t i ok
    match r.2.2.1 with
    | some rec => (r.1, .removed r.2.1 rec)
    | none => (r.1, .status r.2.1)

/-- The abstract state after a step, determined by the operation and its output. -/
def specNext (live : List Nat) : Op → Out → List Nat
  | .insert rec _, .status .success => rec :: live
  | .remove _ _, .removed _ r => live.filter (· ≠ r)
  | .eraseAt _ _, .removed _ r => live.filter (· ≠ r)
  | _, _ => live

/-- What the abstract map allows: `live` is the list of live records before the call. -/
def Allowed (keyOf : Nat → Nat) (live : List Nat) : Op → Out → Prop
  | .insert rec ok, out =>
    ((∃ r ∈ live, keyOf r = keyOf rec) ∧ out = .status .exists_) ∨
    ((∀ r ∈ live, keyOf r ≠ keyOf rec) ∧ (out = .status .success ∨ (ok = false ∧ out = .status .noMem)))
  | .find key, out =>
    (∃ r ∈ live, keyOf r = key ∧ out = .found r) ∨ ((∀ r ∈ live, keyOf r ≠ key) ∧ out = .absent)
  | .remove key ok, out =>
    (∃ r ∈ live, keyOf r = key ∧ (out = .removed .success r ∨ (ok = false ∧ out = .removed .noMem r))) ∨
    ((∀ r ∈ live, keyOf r ≠ key) ∧ out = .status .notFound)
  | .eraseAt _ ok, out =>
    -- the abstract map cannot know which slot an iterator value denotes: either the call is refused
    -- (BAD_ARG, nothing changes) or some live record is removed and that record is reported
    out = .status .badArg ∨
    ∃ r ∈ live, (out = .removed .success r ∨ (ok = false ∧ out = .removed .noMem r))

/-- The table represents the abstract list: iteration is a permutation of it (each live record
exactly once) and the size field is its length. -/
def Abs (t : Table) (live : List Nat) : Prop :=
  (iterate t).Perm live ∧ t.count = live.length

/-- Keys of the abstract list are pairwise distinct. -/
def KeysDistinct (keyOf : Nat → Nat) (live : List Nat) : Prop :=
  (live.map keyOf).Nodup

def run (keyOf codeOf : Nat → Nat) (t : Table) (ops : List Op) : Table :=
  ops.foldl (fun t op => (step keyOf codeOf t op).1) t

/-- Every step from the given state on is allowed and keeps the representation. -/
def StepsAllowed (keyOf codeOf : Nat → Nat) : Table → List Nat → List Op → Prop
  | _, _, [] => True
  | t, live, op :: rest =>
    let r := step keyOf codeOf t op
    let live' := specNext live op r.2
    Allowed keyOf live op r.2 ∧ Abs r.1 live' ∧ KeysDistinct keyOf live' ∧ Inv keyOf codeOf r.1 ∧
    StepsAllowed keyOf codeOf r.1 live' rest

end Zix.C03

import ZixModel.Model.Env
/-! Environment expansion as a left-to-right tokeniser: `$NAME` (NAME = longest non-empty run of
`[A-Z0-9_]`), a `~` standing alone as a path component (the start of the string or a path delimiter
before it, a path delimiter or the end after it), and literal bytes.  Values are appended verbatim,
never rescanned.  `prevDelim`: the byte before the current position is the start of the string or a
path delimiter. -/
namespace Zix.Env

/-- What the expansion of the rest of the string must be. -/
def specFrom (env : List (List Nat)) : (prevDelim : Bool) → List Nat → List Nat
  | _, [] => []
  | prevDelim, c :: rest =>
    if c = 36 ∧ isVarChar (rest.headD 0) then
      let name := rest.takeWhile isVarChar
      varText env (c :: name) ++ specFrom env false (rest.dropWhile isVarChar)
    else if c = 126 ∧ isPathDelim (rest.headD 0) ∧ prevDelim = true then
      homeText env ++ specFrom env false rest
    else
      c :: specFrom env (isPathDelim c) rest
termination_by _ l => l.length
decreasing_by
  all_goals simp_wf
  · have := (List.dropWhile_suffix isVarChar (l := rest)).length_le; omega

/-- What the expansion of `str` must be. -/
def spec (env : List (List Nat)) (str : List Nat) : List Nat := specFrom env true str

end Zix.Env

namespace Zix.C16
open Zix.Env

/-- Whether the last byte of `pre` is a path delimiter (`b` when `pre` is empty). -/
def endsDelim (b : Bool) (pre : List Nat) : Bool :=
  match pre.getLast? with
  | none => b
  | some c => isPathDelim c

end Zix.C16

import ZixModel.Spec.AvlHistory
/-! The allocator events of a ZixTree history (property C08).  Block 1 is the tree header
(`zix_tree_new`); the node of element `id` is block `id + 1`, obtained by the insert that created it
and released by the `zix_tree_remove` of its element; `zix_tree_free` releases everything still
stored (post-order), then the header.  The correspondence check compares this sequence, call by
call, with the tracking allocator's log under the real `src/tree.c`. -/
namespace Zix.C08Avl
open Zix.Avl Zix.C06

inductive AEv where
  | alloc (blk : Nat)     -- a block was obtained
  | refused               -- a request was refused (no block)
  | free (blk : Nat)      -- a block was released
deriving Repr, DecidableEq

/-- Allocator events of one call, from the operation and its outcome. -/
def evOf : Op → Out → List AEv
  | .ins _, .inserted id => [.alloc (id + 1)]
  | .insFail _, .noMem => [.refused]
  | .rm id, .removed => [.free (id + 1)]
  | _, _ => []

def newEvents : List AEv := [.alloc 1]

/-- `zix_tree_free`: nodes in post-order, then the header. -/
def freeEvents (t : Tree) : List AEv := t.root.postorder.map (fun p => AEv.free (p.1 + 1)) ++ [.free 1]

def runEvents (t : Tree) : List Op → Tree × List AEv
  | [] => (t, [])
  | op :: rest =>
    let r := treeStep t op
    let r2 := runEvents r.1 rest
    (r2.1, evOf op r.2 ++ r2.2)

/-- The whole life of a tree: new, any history, free. -/
def lifecycle (d : Bool) (ops : List Op) : List AEv :=
  let r := runEvents (Tree.new d) ops
  newEvents ++ r.2 ++ freeEvents r.1

def allocs (es : List AEv) : List Nat := es.filterMap (fun e => match e with | .alloc b => some b | _ => none)

def frees (es : List AEv) : List Nat := es.filterMap (fun e => match e with | .free b => some b | _ => none)

end Zix.C08Avl

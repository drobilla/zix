import ZixModel.Model.CopyFile
/-! The one fact about the platform that the C14 theorems assume of the fault oracle. -/
namespace Zix.C14
open Zix.CopyFile

/-- A failing system call reports a non-zero errno. -/
def Legal (fault : Call → Nat → Option Fault) : Prop := ∀ c n e, fault c n = some (.err e) → e ≠ 0

end Zix.C14

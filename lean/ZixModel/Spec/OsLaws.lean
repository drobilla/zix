import ZixModel.Model.Path
import ZixModel.Model.Errno
/-! What the create_directories theorems of C15 assume: of an operating system, given as a state
type with `isDir` (a `stat` that answers "directory?") and `mkdir`, and of the other processes that
act on it between the walk's test of a prefix and its `mkdir` (`env`); all for states satisfying
`inv`. -/
namespace Zix.C15Link
open Zix.Path

/-- What the proof needs to know about the operating system, for states satisfying `inv`. -/
structure OsLaws {σ : Type} (inv : σ → Prop) (isDir : σ → List Nat → Bool)
    (mkdir : σ → List Nat → σ × Option Int) : Prop where
  /-- mkdir keeps the state well formed -/
  mkdir_inv : ∀ t p, inv t → inv (mkdir t p).1
  /-- a successful mkdir makes the path a directory -/
  mkdir_ok_dir : ∀ t p t', inv t → mkdir t p = (t', none) → isDir t' p = true
  /-- a failed mkdir changes nothing and its errno maps to an error status -/
  mkdir_fail : ∀ t p t' e, inv t → mkdir t p = (t', some e) → t' = t ∧ Zix.Errno.errnoStatus e ≠ 0
  /-- creating a directory never makes another directory path stop naming a directory -/
  mkdir_mono : ∀ t p t' q, inv t → mkdir t p = (t', none) → isDir t q = true → isDir t' q = true
  /-- if a path names a directory then so does every non-empty prefix cut next to a separator -/
  prefix_closed : ∀ t s k, inv t → isDir t s = true → 0 < k → k ≤ s.length →
    (k = s.length ∨ isSep (s.getD k 0) = true ∨ isSep (s.getD (k - 1) 0) = true) → isDir t (s.take k) = true
  /-- a non-empty string of separators names the root directory -/
  root_dir : ∀ t s, inv t → s ≠ [] → (∀ c ∈ s, isSep c = true) → isDir t s = true

end Zix.C15Link

-- What is assumed of the other processes, under the names by which `Properties/C15Race.lean` states
-- its theorems; `Properties/C15Link.lean`, which examines the walk once for both, opens `EnvLaws`
-- from here.
namespace Zix.C15Race

/-- What the proofs need to know about the other processes. -/
structure EnvLaws {σ : Type} (inv : σ → Prop) (isDir : σ → List Nat → Bool)
    (env : Nat → List Nat → σ → σ) : Prop where
  /-- they keep the state well formed -/
  env_inv  : ∀ k p t, inv t → inv (env k p t)
  /-- they never remove a directory -/
  env_mono : ∀ k p t q, inv t → isDir t q = true → isDir (env k p t) q = true

/-- mkdir of something that already is a directory fails, with EEXIST. -/
def MkdirHonest {σ : Type} (inv : σ → Prop) (isDir : σ → List Nat → Bool)
    (mkdir : σ → List Nat → σ × Option Int) : Prop :=
  ∀ t p, inv t → isDir t p = true → ∃ e, mkdir t p = (t, some e) ∧ Zix.Errno.errnoStatus e = 4

end Zix.C15Race

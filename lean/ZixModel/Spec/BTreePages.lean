import ZixModel.Spec.BTree
/-! Specification vocabulary of C08 for the B-tree: the blocks a tree owns, the replay of allocator
events against the set of live blocks, and histories of calls with the events they cause, ending
in `zix_btree_free`. -/
namespace Zix.C08
open Zix.BTree

mutual
/-- Block ids of all pages of a subtree. -/
def pagesOf : Node → List Nat
  | .leaf id _ => [id]
  | .inode id _ cs => id :: pagesOfList cs
def pagesOfList : List Node → List Nat
  | [] => []
  | c :: cs => pagesOf c ++ pagesOfList cs
end

/-- All blocks a tree owns: the tree record and every node page. -/
def Tree.pages (t : Tree) : List Nat := t.treeId :: pagesOf t.root

/-- Replay allocator events against the set of live blocks: `none` as soon as a block is granted
twice, or released while not live (double release, foreign pointer). -/
def applyEvs : List Nat → List Ev → Option (List Nat)
  | live, [] => some live
  | live, .alloc id :: rest => if id ∈ live then none else applyEvs (id :: live) rest
  | live, .allocFail :: rest => applyEvs live rest
  | live, .free id :: rest => if id ∈ live then applyEvs (live.erase id) rest else none

/-- The tree's blocks are distinct and were all granted by the allocator (ids below its counter). -/
def PagesOK (a : AllocSt) (t : Tree) : Prop := (Tree.pages t).Nodup ∧ ∀ id ∈ Tree.pages t, id < a.next

/-- Events of `zix_btree_free` (btree.c:157-166): everything `clear` releases, then the root page,
then the tree record. The driver has no `free` operation, so this order is not compared with the
implementation's. -/
def freeEvents (t : Tree) : List Ev := (t.clear).2.2 ++ [.free t.root.id, .free t.treeId]

/-- `Zix.C01.stepImpl` with the allocator events of the call in place of its status. -/
def stepEv (c : Cfg) (fails : Nat → Bool) (s : AllocSt × Tree) : Zix.C01.Op → (AllocSt × Tree) × List Ev
  | .ins e => let r := s.2.insert c fails s.1 e; ((r.1, r.2.1), r.2.2.2.1)
  | .rm e => let r := s.2.remove c e; ((s.1, r.1), r.2.2.2.2.1)
  | .clear => ((s.1, (s.2.clear).1), (s.2.clear).2.2)

def runEv (c : Cfg) (fails : Nat → Bool) : (AllocSt × Tree) → List Zix.C01.Op → (AllocSt × Tree) × List Ev
  | s, [] => (s, [])
  | s, op :: ops =>
    let (s', e1) := stepEv c fails s op
    let (s'', e2) := runEv c fails s' ops
    (s'', e1 ++ e2)

end Zix.C08

import ZixModel.Model.Bump
/-! What the C09 theorems are stated with: the invariant of the bump-allocator state, and histories
of requests as a caller issues them. -/
namespace Zix.Bump

/-- Round up to a multiple of 8 in unbounded arithmetic. -/
def ru8 (n : Nat) : Nat := (n + 7) / 8 * 8

/-- Two blocks occupy different addresses and do not overlap. -/
def Apart (a b : Block) : Prop :=
  (a.off + a.size ≤ b.off ∧ a.off < b.off) ∨ (b.off + b.size ≤ a.off ∧ b.off < a.off)

structure Inv (s : State) : Prop where
  /-- Assumed of the caller's buffer: its addresses `base … base + cap` do not wrap around. -/
  capW   : s.base + s.cap < W
  topA   : (s.base + s.top) % 8 = 0
  lastA  : (s.base + s.last) % 8 = 0
  lastLe : s.last ≤ s.top
  /-- The initial top skips up to 7 bytes to reach an aligned address, which can exceed a capacity
  below 8; nothing is granted then. -/
  topCap : s.top ≤ s.cap ∨ s.live = []
  /-- `size` is what the caller asked for and may be 0, while the block occupies at least 8 bytes:
  hence `off < top` (and `off < last`) beside `off + size ≤ top`, which an empty block at the top
  meets. -/
  blk    : ∀ b ∈ s.live, (s.base + b.off) % 8 = 0 ∧ b.off + b.size ≤ s.top ∧ b.off < s.top ∧
             (b.off = s.last ∨ (b.off + b.size ≤ s.last ∧ b.off < s.last)) ∧ b.id < s.next
  disj   : s.live.Pairwise Apart
  ids    : s.live.Pairwise (fun a b => a.id ≠ b.id)

end Zix.Bump

namespace Zix.C09
open Zix.Bump

/-- A request, as the caller issues it.  `realloc`/`free` name a block by its id. -/
inductive Req where
  | malloc (n : Nat)
  | calloc (n m : Nat)
  | realloc (id n : Nat)
  | free (id : Nat)
  | aalloc (a n : Nat)
deriving Repr

/-- What the API requires of the caller: arguments are `size_t`s, `realloc` names a live block,
the alignment is a multiple of 8 (a power of two ≥ sizeof(uintmax_t) in the C API; for a multiple
of 8 that is no power of two `roundUp` still rounds to a multiple, which the C bit mask does
not). -/
def Req.Valid (s : State) : Req → Prop
  | .malloc n => n < W
  | .calloc n m => n < W ∧ m < W
  | .realloc id n => n < W ∧ ∃ b ∈ s.live, b.id = id
  | .free _ => True
  | .aalloc a n => 0 < a ∧ 8 ∣ a ∧ a < W ∧ n < W

def step (s : State) : Req → State × Option Nat
  | .malloc n => malloc s n
  | .calloc n m => calloc s n m
  | .realloc id n =>
    match s.live.find? (·.id = id) with
    | some b => realloc s b.off n
    | none => (s, none)
  | .free id => (free s id, none)
  | .aalloc a n => alignedAlloc s a n

def run (s : State) : List Req → State
  | [] => s
  | r :: rs => run (step s r).1 rs

/-- Every request of the history is valid in the state in which it is issued. -/
def ValidHistory (s : State) : List Req → Prop
  | [] => True
  | r :: rs => r.Valid s ∧ ValidHistory (step s r).1 rs

end Zix.C09

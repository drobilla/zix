import ZixModel.Model.Hash
/-! The invariant of a ZixHash table in which the C03 theorems are stated, and the vocabulary of its
fields.  `keyOf : rec → key` is the user's key accessor and `codeOf : key → code` the user's hash
function; both are arbitrary functions. -/
namespace Zix.C03
open Zix.Hash

/-- The live records of a table, in slot order: what begin..end iteration visits (the model has it
as this list; `zix_hash_begin`/`zix_hash_next` are not transcribed as loops). -/
def liveRecs (t : Table) : List Nat := iterate t

/-- Slot `i` holds record `r` under code `c`. -/
def HoldsAt (t : Table) (i c r : Nat) : Prop := t.slots[i]? = some (.live c r)

/-- No empty slot on the cyclic probe path from `start` up to (excluding) `i`. -/
def PathNonEmpty (t : Table) (start i : Nat) : Prop :=
  ∀ d, d < (i + t.n - start) % t.n → t.slots[(start + d) % t.n]? ≠ some .empty

/- CORRECTED.  The invariant as first stated,

  -- ORIGINAL:
  -- structure Inv (keyOf codeOf : Nat → Nat) (t : Table) : Prop where
  --   size4     : 4 ≤ t.n
  --   countEq   : t.count = (liveRecs t).length
  --   load      : t.count < t.n
  --   codes     : ∀ i c r, HoldsAt t i c r → c = codeOf (keyOf r)
  --   distinct  : ∀ i j c d r s, HoldsAt t i c r → HoldsAt t j d s → keyOf r = keyOf s → i = j
  --   reachable : ∀ i c r, HoldsAt t i c r → PathNonEmpty t (fold c t.n) i

does not say that the size is a power of two, and removal does not keep it: a table of 5 slots
holding one record shrinks to `5 / 2 = 2` slots and loses `size4`
(`Counterexample.orig_inv_not_preserved` in `Properties/C03.lean`).  The field `pow2` is claimed in
addition; the C code only ever has power-of-two sizes (it starts at `hashMinEntries = 4` and doubles
or halves). -/
structure Inv (keyOf codeOf : Nat → Nat) (t : Table) : Prop where
  size4     : 4 ≤ t.n
  pow2      : ∃ k, t.n = 2 ^ k                    -- ADDED (see the note above)
  countEq   : t.count = (liveRecs t).length
  load      : t.count < t.n                       -- at least one non-live slot
  codes     : ∀ i c r, HoldsAt t i c r → c = codeOf (keyOf r)
  distinct  : ∀ i j c d r s, HoldsAt t i c r → HoldsAt t j d s → keyOf r = keyOf s → i = j
  reachable : ∀ i c r, HoldsAt t i c r → PathNonEmpty t (fold c t.n) i

end Zix.C03

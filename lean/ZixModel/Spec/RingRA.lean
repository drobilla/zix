import ZixModel.Model.RingRA
/-! The bound functions in which the wait-freedom of the ring machine (C04) is stated. -/
namespace Zix.C04
open Zix.RingRA

/-- The writer's own work in steps: one to start a call, one for its acquire load (`write`,
`begin`) or its expansion (`amend`), one per byte, one for the release store (`write`, `commit`). -/
def wWork : List WCall → Nat
  | [] => 0
  | .write d :: rest => d.length + 3 + wWork rest
  | .begin_ :: rest => 2 + wWork rest
  | .amend d :: rest => d.length + 2 + wWork rest
  | .commit :: rest => 2 + wWork rest

/-- The reader's: one step to start a call, one for its acquire load, one per byte (`read`,
`peek`), one to deliver or discard them, one for the release store (`read`, `skip`). -/
def rWork : List RCall → Nat
  | [] => 0
  | .read k :: rest => k + 4 + rWork rest
  | .peek k :: rest => k + 3 + rWork rest
  | .skip _ :: rest => 3 + rWork rest

end Zix.C04

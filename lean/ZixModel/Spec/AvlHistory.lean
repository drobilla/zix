import ZixModel.Spec.Avl
/-! Histories of a ZixTree: the operations of the interface with their outputs, the abstract sorted
(multi)set `Spec` they are specified by, the implementation model driven by the same operations
(`treeStep`), both run over a list of operations, and the abstraction map `abs` between them. -/
namespace Zix.C06
open Zix.Avl

inductive Op where
  | ins (e : Int)        -- zix_tree_insert, allocation succeeds
  | insFail (e : Int)    -- zix_tree_insert, the allocator refuses the node
  | rm (id : Nat)        -- zix_tree_remove of the iterator to element `id`
  | find (e : Int)       -- zix_tree_find
deriving Repr

inductive Out where
  | inserted (id : Nat)  -- SUCCESS, iterator at the new element
  | exists_ (id : Nat)   -- EXISTS, iterator at the existing element
  | noMem
  | removed
  | badIter              -- `rm` of an id that is not in the tree (outside the API contract)
  | found (key : Int)
  | notFound
deriving Repr, DecidableEq

/-- The abstract sorted (multi)set: elements (id, key) in key order, equal keys in insertion
order. -/
structure Spec where
  dups : Bool
  elems : List (Nat × Int)
  next : Nat
deriving Repr

def Spec.new (d : Bool) : Spec := ⟨d, [], 1⟩

/-- The element a duplicate-refusing insert of `e` collides with. -/
def Spec.clash (s : Spec) (e : Int) : Option (Nat × Int) :=
  if s.dups then none else s.elems.find? (fun p => p.2 == e)

def Spec.step (s : Spec) : Op → Spec × Out
  | .ins e =>
    match s.clash e with
    | some p => (s, .exists_ p.1)
    | none => ({ s with elems := listInsert e s.next s.elems, next := s.next + 1 }, .inserted s.next)
  | .insFail e =>
    match s.clash e with
    | some p => (s, .exists_ p.1)
    | none => (s, .noMem)
  | .rm id =>
    if id ∈ s.elems.map (·.1) then ({ s with elems := s.elems.filter (fun p => p.1 ≠ id) }, .removed)
    else (s, .badIter)
  | .find e => (s, if e ∈ s.elems.map (·.2) then .found e else .notFound)

/-- The implementation model driven by the same operations. -/
def treeStep (t : Tree) : Op → Tree × Out
  | .ins e =>
    match t.insert e with
    | (t', .success, id) => (t', .inserted id)
    | (t', _, id) => (t', .exists_ id)
  | .insFail e =>
    match t.insertMayFail e false with
    | (t', some (_, id)) => (t', .exists_ id)
    | (t', none) => (t', .noMem)
  | .rm id =>
    match t.remove id with
    | some t' => (t', .removed)
    | none => (t, .badIter)
  | .find e =>
    match (find e t.root 0).1 with
    | some i =>
      match t.root.inorder.lookup i with
      | some k => (t, .found k)
      | none => (t, .notFound)
    | none => (t, .notFound)

def runTree (t : Tree) : List Op → Tree × List Out
  | [] => (t, [])
  | op :: rest => let (t', o) := treeStep t op; let (t'', os) := runTree t' rest; (t'', o :: os)

def runSpec (s : Spec) : List Op → Spec × List Out
  | [] => (s, [])
  | op :: rest => let (s', o) := s.step op; let (s'', os) := runSpec s' rest; (s'', o :: os)

/-- Abstraction map: the in-order sequence. -/
def abs (t : Tree) : Spec := ⟨t.dups, t.root.inorder, t.next⟩

end Zix.C06

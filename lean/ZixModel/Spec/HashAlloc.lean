import ZixModel.Spec.HashHistory
/-! The allocator events of a ZixHash history (property C08).  The blocks of a table are the header
(block 1) and the current entry array (block 2 at first).  A successful resize obtains the new array
and then releases the old one; a refused resize obtains and releases nothing; `zix_hash_free`
releases the current array and the header.  The correspondence check compares this sequence, call
by call, with the tracking allocator's log under the real `src/hash.c`. -/
namespace Zix.C08Hash
open Zix.Hash Zix.C03

inductive AEv where
  | alloc (blk : Nat)
  | refused
  | free (blk : Nat)
deriving Repr, DecidableEq

/-- Ghost allocator state: the block holding the current entry array and the next fresh block
id. -/
structure Blocks where
  cur : Nat
  next : Nat
deriving Repr, DecidableEq

def Blocks.start : Blocks := ⟨2, 3⟩

def newEvents : List AEv := [.alloc 1, .alloc 2]

/-- Events of one call: `refused` = the call reported NO_MEM, `resized` = the entry array changed
size. -/
def callEvents (b : Blocks) (refused resized : Bool) : Blocks × List AEv :=
  if refused then (b, [.refused])
  else if resized then (⟨b.next, b.next + 1⟩, [.alloc b.next, .free b.cur])
  else (b, [])

def isRefused : Out → Bool
  | .status .noMem => true
  | .removed .noMem _ => true
  | _ => false

/-- The allocator events of a history, reconstructed call by call from what the call shows, since
the model of the operations (`Model/Hash.lean`) logs the user callbacks only and no allocator event
(the B-tree model logs its own): NO_MEM is a refused allocation, a changed size a replaced array.
A call replaced the entry array exactly when the size changed: growing goes to `n * 2`, shrinking
to `n / 2` and only from `n > 4` (a table has at least 4 slots, `Inv.size4`), and nothing else
allocates. -/
def runEvents (keyOf codeOf : Nat → Nat) (t : Table) (b : Blocks) : List Op → Table × Blocks × List AEv
  | [] => (t, b, [])
  | op :: rest =>
    let r := step keyOf codeOf t op
    let e := callEvents b (isRefused r.2) (decide (r.1.n ≠ t.n))
    let r2 := runEvents keyOf codeOf r.1 e.1 rest
    (r2.1, r2.2.1, e.2 ++ r2.2.2)

def freeEvents (b : Blocks) : List AEv := [.free b.cur, .free 1]

/-- The whole life of a table: new, any history, free. -/
def lifecycle (keyOf codeOf : Nat → Nat) (ops : List Op) : List AEv :=
  let r := runEvents keyOf codeOf new Blocks.start ops
  newEvents ++ r.2.2 ++ freeEvents r.2.1

def allocs (es : List AEv) : List Nat := es.filterMap (fun e => match e with | .alloc b => some b | _ => none)

def frees (es : List AEv) : List Nat := es.filterMap (fun e => match e with | .free b => some b | _ => none)

end Zix.C08Hash

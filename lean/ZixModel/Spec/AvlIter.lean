import ZixModel.Model.Avl
/-! The parent-pointer iterators of ZixTree as pointer code.  `T` stores no parents; `table` renders
a tree as the nodes the C code sees (the parent ids are those `Driver.C06.dump` prints for the
correspondence harness to compare with `n->parent`), and the four functions are the loops of
src/tree.c over it.  The driver does not run them: its `walk` prints `inorder`, and
`forward_walk`/`backward_walk` prove that the loops produce it.  Fuel `t.size` for a descent and
`t.size + 1` for a climb never runs out on a tree whose ids are distinct; out of fuel a descent
stops where it is and a climb answers `none`, the end iterator. -/
namespace Zix.C06
open Zix.Avl

structure NodeRec where
  left : Option Nat
  right : Option Nat
  parent : Option Nat
deriving Repr, DecidableEq

def rootId : T → Option Nat
  | .nil => none
  | .node _ i _ _ _ => some i

/-- The pointer structure of the tree: node id ↦ (left, right, parent). -/
def table : T → Option Nat → List (Nat × NodeRec)
  | .nil, _ => []
  | .node l i _ _ r, p => (i, ⟨rootId l, rootId r, p⟩) :: (table l (some i) ++ table r (some i))

def leftOf (tb : List (Nat × NodeRec)) (i : Nat) : Option Nat := (tb.lookup i).bind (·.left)

def rightOf (tb : List (Nat × NodeRec)) (i : Nat) : Option Nat := (tb.lookup i).bind (·.right)

def parentOf (tb : List (Nat × NodeRec)) (i : Nat) : Option Nat := (tb.lookup i).bind (·.parent)

/-- `while (n->left) n = n->left;` -/
def descendLeft (tb : List (Nat × NodeRec)) : Nat → Nat → Nat
  | 0, i => i
  | fuel + 1, i => match leftOf tb i with | some l => descendLeft tb fuel l | none => i

/-- `while (n->right) n = n->right;` -/
def descendRight (tb : List (Nat × NodeRec)) : Nat → Nat → Nat
  | 0, i => i
  | fuel + 1, i => match rightOf tb i with | some r => descendRight tb fuel r | none => i

/-- `while (i->parent && i->parent->right == i) i = i->parent;  return i->parent;` -/
def climbFromRight (tb : List (Nat × NodeRec)) : Nat → Nat → Option Nat
  | 0, _ => none
  | fuel + 1, i =>
    match parentOf tb i with
    | some p => if rightOf tb p = some i then climbFromRight tb fuel p else some p
    | none => none

/-- `while (i->parent && i->parent->left == i) i = i->parent;  return i->parent;` -/
def climbFromLeft (tb : List (Nat × NodeRec)) : Nat → Nat → Option Nat
  | 0, _ => none
  | fuel + 1, i =>
    match parentOf tb i with
    | some p => if leftOf tb p = some i then climbFromLeft tb fuel p else some p
    | none => none

/-- `zix_tree_begin`; `none` = the end iterator (NULL). -/
def iterBegin (t : T) : Option Nat := (rootId t).map (descendLeft (table t none) t.size)

/-- `zix_tree_rbegin` -/
def iterRBegin (t : T) : Option Nat := (rootId t).map (descendRight (table t none) t.size)

/-- `zix_tree_iter_next(i)` for a non-NULL iterator at node `i`. -/
def iterNext (t : T) (i : Nat) : Option Nat :=
  let tb := table t none
  match rightOf tb i with
  | some r => some (descendLeft tb t.size r)
  | none => climbFromRight tb (t.size + 1) i

/-- `zix_tree_iter_prev(i)` for a non-NULL iterator at node `i`. -/
def iterPrev (t : T) (i : Nat) : Option Nat :=
  let tb := table t none
  match leftOf tb i with
  | some l => some (descendRight tb t.size l)
  | none => climbFromLeft tb (t.size + 1) i

def inorderIds (t : T) : List Nat := t.inorder.map (·.1)

/-! The nodes a walk visits that starts at the given iterator and applies next (`walkFrom`) or prev
(`walkBack`) until it reaches the end iterator, `fuel` nodes at most. -/

def walkFrom (t : T) : Nat → Option Nat → List Nat
  | 0, _ => []
  | _ + 1, none => []
  | fuel + 1, some i => i :: walkFrom t fuel (iterNext t i)

def walkBack (t : T) : Nat → Option Nat → List Nat
  | 0, _ => []
  | _ + 1, none => []
  | fuel + 1, some i => i :: walkBack t fuel (iterPrev t i)

end Zix.C06

import ZixModel.Model.Avl
/-! The predicates and list functions in which the C06 theorems about ZixTree are stated, and the
invariant `TreeInv` of a `Tree` value that every history keeps. -/
namespace Zix.C06
open Zix.Avl

/-- Every stored balance factor is the height difference right − left and lies in {−1, 0, 1}. -/
def Balanced : T → Prop
  | .nil => True
  | .node l _ _ b r =>
    Balanced l ∧ Balanced r ∧ b = (r.height : Int) - (l.height : Int) ∧ -1 ≤ b ∧ b ≤ 1

/-- In-order keys are ascending (non-strictly: duplicates may be present). -/
def Sorted (t : T) : Prop := (t.inorder.map (·.2)).Pairwise (· ≤ ·)

/-- In-order keys are strictly ascending (no duplicates). -/
def StrictSorted (t : T) : Prop := (t.inorder.map (·.2)).Pairwise (· < ·)

/-- Position-wise insertion into the in-order list: after every element with key ≤ e. -/
def listInsert (e : Int) (id : Nat) : List (Nat × Int) → List (Nat × Int)
  | [] => [(id, e)]
  | (i, k) :: rest => if e < k then (id, e) :: (i, k) :: rest else (i, k) :: listInsert e id rest

/-- Fibonacci numbers, for the height bound: a balanced tree of height `h` has at least
`fib (h + 2) - 1` nodes (`avl_height_bound`). -/
def fib : Nat → Nat
  | 0 => 0
  | 1 => 1
  | n + 2 => fib n + fib (n + 1)

/-- What every `Tree` reached from `Tree.new` satisfies (`tree_refines_spec`).  `fresh` and `nodup`:
an id is given out once, which is what lets an iterator be a node id. -/
structure TreeInv (t : Tree) : Prop where
  bal    : Balanced t.root
  sorted : if t.dups then Sorted t.root else StrictSorted t.root
  size   : t.size = t.root.size
  fresh  : ∀ p ∈ t.root.inorder, p.1 < t.next
  nodup  : (t.root.inorder.map (·.1)).Nodup

end Zix.C06

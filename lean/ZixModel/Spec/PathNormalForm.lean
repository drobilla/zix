import ZixModel.Spec.Cpp17Path
/-! What property C11 (`lexically_normal`) says of the result of `zix_path_lexically_normal`: the
normal-form predicate on C++17 path values and the printed form of a path value. -/
namespace Zix.C11
open Zix.Path

/-- Normal form of a path value: no '.' element unless the whole path is '.', no 'name/..' pair,
no '..' directly under the root directory, no separator (trailing empty element) after a trailing
'..', and only the last element may be empty. -/
def IsNormal (p : PathSpec.P) : Prop :=
  (p = ⟨false, [[dot]]⟩ ∨ [dot] ∉ p.names) ∧
  (∀ i, p.names[i + 1]? = some [dot, dot] → p.names[i]? = some [dot, dot]) ∧
  (p.root = true → p.names.head? ≠ some [dot, dot]) ∧
  (∀ i, p.names[i]? = some [] → i + 1 = p.names.length ∧ 0 < i ∧ p.names[i - 1]? ≠ some [dot, dot])

/-- The printed form of a path value: the root directory as one separator, then the names with one
separator between them (the Bool of the fold says that no name has been written yet).  A text equal
to the printed form of its own path value has no repeated separators. -/
def unparse (p : PathSpec.P) : List Nat :=
  (if p.root then [sep] else []) ++
    (p.names.foldl
      (fun acc n => if acc.1 then (false, acc.2 ++ n) else (false, acc.2 ++ [sep] ++ n))
      (true, [])).2

end Zix.C11

import ZixModel.Model.Ring
/-! The predicates in which the C05 ring properties are stated: the representation invariant, the
abstraction function to the FIFO, and the invariant of an open write transaction. -/
namespace Zix.C05
open Zix.Ring

/-- Representation invariant of a ring made by `new`: power-of-two size ≤ 2^31, heads in range,
buffer of `size` bytes. -/
structure WF (g : Ring) : Prop where
  pow   : ∃ k, k ≤ 31 ∧ g.size = 2 ^ k
  rlt   : g.r < g.size
  wlt   : g.w < g.size
  blen  : g.buf.length = g.size

/-- The bytes stored in the ring, oldest first (the abstraction function to the FIFO spec). -/
def content (g : Ring) : List Nat :=
  (List.range (readSpace g)).map (fun i => g.buf.getD ((g.r + i) % g.size) 0)

/-- `TxOk g tx pending` says: `tx` was begun on this ring, `pending` are the bytes amended so far
(stored in the buffer after the write head, invisible), and the reader may have consumed bytes
since `begin`: the transaction's copy of the read head is stale by that many (the first summand of
`fits`). -/
structure TxOk (g : Ring) (tx : Tx) (pending : List Nat) : Prop where
  rlt : tx.r < g.size
  wlt : tx.w < g.size
  /-- the stale stretch (`readSpaceAt g tx.r g.r`, written out), then the live data, then the
  pending bytes, all fit in the ring -/
  fits : ((g.r + W32 - tx.r) % W32) % g.size + readSpace g + pending.length ≤ g.size - 1
  pend : tx.w = (g.w + pending.length) % g.size
  bytes : ∀ i, i < pending.length → g.buf.getD ((g.w + i) % g.size) 0 = pending.getD i 0

end Zix.C05

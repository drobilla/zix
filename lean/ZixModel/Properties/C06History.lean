import ZixModel.Properties.C06
import ZixModel.Spec.AvlHistory
/-! # C06 at the level of whole histories: ZixTree refines an abstract sorted (multi)set

Over every operation sequence starting from `zix_tree_new`: the concrete tree, seen through its
in-order sequence, IS the abstract sorted list that a user of a sorted (multi)set expects, every
output agrees, and the number of comparisons of a find obeys the AVL bound in every reachable
state. -/
namespace Zix.C06
open Zix.Avl

/-- Under the invariant the implementation's insert search and the abstract `clash` agree. -/
theorem insertAux_cases (t : Tree) (h : TreeInv t) (e : Int) :
    (∃ i, insertAux t.dups e t.next t.root = .exists_ i ∧ (abs t).clash e = some (i, e)) ∨
    (∃ r g, insertAux t.dups e t.next t.root = .done r g ∧ (abs t).clash e = none ∧
      r.inorder = listInsert e t.next t.root.inorder) := by
  rcases insertAux_spec t.dups e t.next t.root (h.sorted_root) with
    ⟨hd, i, hx, hmem⟩ | ⟨hnot, r, g, hres, hI, _⟩
  · have hs : StrictSorted t.root := by have := h.sorted; rwa [hd] at this
    refine .inl ⟨i, hx, ?_⟩
    simp only [Spec.clash, abs, hd, Bool.false_eq_true, if_false]
    exact find?_key_of_mem _ i e hs hmem
  · refine .inr ⟨r, g, hres, ?_, hI⟩
    cases hd : t.dups
    · simp only [Spec.clash, abs, hd, Bool.false_eq_true, if_false]
      exact find?_key_none _ e (hnot hd)
    · simp only [Spec.clash, abs, hd, if_true]

theorem treeStep_ins_exists {t : Tree} {e : Int} {i : Nat}
    (h : insertAux t.dups e t.next t.root = .exists_ i) :
    treeStep t (.ins e) = (t, .exists_ i) := by
  simp only [treeStep, Tree.insert, h]

theorem treeStep_ins_done {t : Tree} {e : Int} {r : T} {g : Bool}
    (h : insertAux t.dups e t.next t.root = .done r g) :
    treeStep t (.ins e) =
      ({ t with root := r, size := t.size + 1, next := t.next + 1 }, .inserted t.next) := by
  simp only [treeStep, Tree.insert, h]

theorem treeStep_insFail_exists {t : Tree} {e : Int} {i : Nat}
    (h : insertAux t.dups e t.next t.root = .exists_ i) :
    treeStep t (.insFail e) = (t, .exists_ i) := by
  simp only [treeStep, Tree.insertMayFail, h]

theorem treeStep_insFail_done {t : Tree} {e : Int} {r : T} {g : Bool}
    (h : insertAux t.dups e t.next t.root = .done r g) :
    treeStep t (.insFail e) = (t, .noMem) := by
  simp only [treeStep, Tree.insertMayFail, h, Bool.false_eq_true, if_false]

theorem treeStep_rm_some {t : Tree} {id : Nat} {r : T} {s : Bool}
    (h : removeId id t.root = some (r, s)) :
    treeStep t (.rm id) = ({ t with root := r, size := t.size - 1 }, .removed) := by
  simp only [treeStep, Tree.remove, h]

theorem treeStep_rm_none {t : Tree} {id : Nat} (h : removeId id t.root = none) :
    treeStep t (.rm id) = (t, .badIter) := by
  simp only [treeStep, Tree.remove, h]

theorem treeStep_find_fst (t : Tree) (e : Int) : (treeStep t (.find e)).1 = t := by
  simp only [treeStep]
  split
  · split <;> rfl
  · rfl

/-- One step commutes with the abstraction and produces the same output. -/
theorem step_refines (t : Tree) (h : TreeInv t) (op : Op) :
    abs (treeStep t op).1 = ((abs t).step op).1 ∧ (treeStep t op).2 = ((abs t).step op).2 ∧
    TreeInv (treeStep t op).1 := by
  -- the abstract step, evaluated, is the pair of the new abstraction and the output
  suffices hS : (abs t).step op = (abs (treeStep t op).1, (treeStep t op).2) ∧
      TreeInv (treeStep t op).1 from
    ⟨(congrArg Prod.fst hS.1).symm, (congrArg Prod.snd hS.1).symm, hS.2⟩
  cases op with
  | ins e =>
    rcases insertAux_cases t h e with ⟨i, hx, hc⟩ | ⟨r, g, hres, hc, hI⟩
    · rw [treeStep_ins_exists hx]
      exact ⟨by simp only [Spec.step, hc], h⟩
    · rw [treeStep_ins_done hres]
      exact ⟨by simp only [Spec.step, hc]; simp only [abs, hI], h.insert_done hres⟩
  | insFail e =>
    rcases insertAux_cases t h e with ⟨i, hx, hc⟩ | ⟨r, g, hres, hc, _⟩
    · rw [treeStep_insFail_exists hx]
      exact ⟨by simp only [Spec.step, hc], h⟩
    · rw [treeStep_insFail_done hres]
      exact ⟨by simp only [Spec.step, hc], h⟩
  | rm id =>
    by_cases hin : id ∈ t.root.inorder.map (·.1)
    · obtain ⟨r, s, hres, _, hI, _⟩ := remove_spec t.root h.bal id h.nodup hin
      have hin' : id ∈ (abs t).elems.map (·.1) := hin
      rw [treeStep_rm_some hres]
      exact ⟨by simp only [Spec.step, hin', if_true]; simp only [abs, hI], h.remove_some hres⟩
    · have hin' : ¬ id ∈ (abs t).elems.map (·.1) := hin
      rw [treeStep_rm_none (remove_absent t.root id hin)]
      exact ⟨by simp only [Spec.step, hin', if_false], h⟩
  | find e =>
    obtain ⟨_, hsome, hnone⟩ := find_spec t.root (h.sorted_root) e
    cases hf : (find e t.root 0).1 with
    | none =>
      have hnot : ¬ e ∈ (abs t).elems.map (·.2) := hnone.1 hf
      have hT : treeStep t (.find e) = (t, .notFound) := by simp only [treeStep, hf]
      rw [hT]
      exact ⟨by simp only [Spec.step, hnot, if_false], h⟩
    | some i =>
      have hmem : (i, e) ∈ t.root.inorder := hsome i hf
      have hin : e ∈ (abs t).elems.map (·.2) := List.mem_map.2 ⟨(i, e), hmem, rfl⟩
      have hT : treeStep t (.find e) = (t, .found e) := by
        simp only [treeStep, hf, lookup_of_mem _ i e h.nodup hmem]
      rw [hT]
      exact ⟨by simp only [Spec.step, hin, if_true], h⟩

theorem run_refines (ops : List Op) : ∀ (t : Tree), TreeInv t →
    abs (runTree t ops).1 = (runSpec (abs t) ops).1 ∧
    (runTree t ops).2 = (runSpec (abs t) ops).2 ∧
    TreeInv (runTree t ops).1 := by
  induction ops with
  | nil => intro t h; exact ⟨rfl, rfl, h⟩
  | cons op rest ih =>
    intro t h
    obtain ⟨h1, h2, h3⟩ := step_refines t h op
    obtain ⟨i1, i2, i3⟩ := ih (treeStep t op).1 h3
    rw [h1] at i1 i2
    exact ⟨i1, congr (congrArg List.cons h2) i2, i3⟩

/-- **Refinement.** Any history from `zix_tree_new` yields exactly the outputs of the abstract
sorted (multi)set, ends in the state whose in-order sequence is the abstract element list, and keeps
the invariant (balanced, sorted, size field right, ids unique). -/
theorem tree_refines_spec (d : Bool) (ops : List Op) :
    abs (runTree (Tree.new d) ops).1 = (runSpec (Spec.new d) ops).1 ∧
    (runTree (Tree.new d) ops).2 = (runSpec (Spec.new d) ops).2 ∧
    TreeInv (runTree (Tree.new d) ops).1 :=
  run_refines ops (Tree.new d) (inv_new d)

/-- The abstract element list is always sorted by key (so forward iteration = in-order is sorted and
backward iteration = its reverse), and its length is `zix_tree_size`. -/
theorem spec_sorted_and_size (d : Bool) (ops : List Op) :
    ((runSpec (Spec.new d) ops).1.elems.map (·.2)).Pairwise (· ≤ ·) ∧
    (runTree (Tree.new d) ops).1.size = (runSpec (Spec.new d) ops).1.elems.length := by
  obtain ⟨h1, _, h3⟩ := tree_refines_spec d ops
  rw [← h1]
  refine ⟨h3.sorted_root, ?_⟩
  show _ = (runTree (Tree.new d) ops).1.root.inorder.length
  rw [h3.size, size_eq_length]

/-- An element that was inserted and not removed keeps its identity and key whatever else happens:
elements of the abstract list only ever leave through `rm` of their own id. -/
theorem spec_elements_stable (s : Spec) (op : Op) (p : Nat × Int) (hp : p ∈ s.elems)
    (hne : ∀ id, op = .rm id → id ≠ p.1) : p ∈ (s.step op).1.elems := by
  fun_cases Spec.step s op with
  | case2 e hc => exact mem_listInsert.2 (Or.inr hp)
  | case5 id hin =>
    exact List.mem_filter.2 ⟨hp, decide_eq_true fun h => hne id rfl h.symm⟩
  | case1 | case3 | case4 | case6 | case7 => exact hp

/-- In every reachable tree a find makes `c` comparisons with `fib (c + 2) ≤ n + 1`, i.e.
`c ≤ log_φ (n + 2)` ≈ 1.44 log2 (n + 2). -/
theorem reachable_find_bound (d : Bool) (ops : List Op) (e : Int) :
    let t := (runTree (Tree.new d) ops).1
    fib ((find e t.root 0).2 + 2) ≤ t.size + 1 := by
  intro t
  have hinv : TreeInv t := (tree_refines_spec d ops).2.2
  have hc := (find_spec t.root hinv.sorted_root e).1
  rw [hinv.size]
  exact Nat.le_trans (fib_mono (Nat.add_le_add_right hc 2)) (avl_height_bound t.root hinv.bal)

example : (runTree (Tree.new false) [.ins 5, .ins 3, .ins 5, .rm 1, .find 3, .find 5]).2 =
    [.inserted 1, .inserted 2, .exists_ 1, .removed, .found 3, .notFound] := by decide

example : (runSpec (Spec.new false) [.ins 5, .ins 3, .ins 5, .rm 1, .find 3, .find 5]).2 =
    [.inserted 1, .inserted 2, .exists_ 1, .removed, .found 3, .notFound] := by decide

end Zix.C06

import ZixModel.Model.Digest
import ZixModel.Lemmas.Digest
/-! # C13 — digests are pure, alignment-independent, and sensitive to every input part

Purity is by construction (the model is a function of seed and bytes).  The constants (multipliers,
shifts, rotations and the multipliers' inverses) are regenerated from src/digest.c on every run,
and every proof reaches them through the generated names, never through numerals: it is re-checked
against the constants the source has now. -/
namespace Zix.C13
open Zix.Digest Zix.Generated

/-- `zix_digest` is the 64-bit function on this platform (the `#if` regenerated from the source). -/
theorem digest_native_word (seed : BitVec 64) (d : List Nat) : digestNative seed d = digest64 seed d := by
  unfold digestNative
  have : nativeIs64 = true := by decide
  simp [this]

theorem aligned_eq_general64 (seed : BitVec 64) (ws : List (BitVec 64)) (hlen : 8 * ws.length < 2 ^ 64) :
    digest64Aligned seed ws = digest64 seed (ws.flatMap bytesOfWord64) := by
  have _ := hlen  -- the bound is not needed: both sides reduce the length modulo 2^64
  rw [digest64Aligned_eq, digest64_eq, length_flatMap_of_length length_bytesOfWord64, body64_words,
    d64MulAligned_eq]

theorem aligned_eq_general32 (seed : BitVec 32) (ws : List (BitVec 32)) :
    digest32Aligned seed ws = digest32 seed (ws.flatMap bytesOfWord32) := by
  rw [digest32Aligned_eq, digest32_eq, length_flatMap_of_length length_bytesOfWord32, body32_words,
    k32Aligned_eq]

theorem seed_injective64 (d : List Nat) (s1 s2 : BitVec 64) (h : digest64 s1 d = digest64 s2 d) : s1 = s2 := by
  rw [digest64_eq, digest64_eq] at h
  exact (BitVec.xor_left_inj _).mp (body64_m64_inj (mix64_inj h))

theorem seed_injective32 (d : List Nat) (s1 s2 : BitVec 32) (h : digest32 s1 d = digest32 s2 d) : s1 = s2 := by
  rw [digest32_eq, digest32_eq] at h
  exact body32_inj ((BitVec.xor_left_inj _).mp (mix32_inj h))

/-- Inputs that differ only in one word-sized block, at a block boundary, have different digests. -/
theorem block_injective64 (seed : BitVec 64) (pre post : List Nat) (hpre : pre.length % 8 = 0)
    (w1 w2 : BitVec 64)
    (h : digest64 seed (pre ++ bytesOfWord64 w1 ++ post) = digest64 seed (pre ++ bytesOfWord64 w2 ++ post)) :
    w1 = w2 := by
  have hl :
      (pre ++ bytesOfWord64 w1 ++ post).length = (pre ++ bytesOfWord64 w2 ++ post).length := by
    simp only [List.length_append, length_bytesOfWord64]
  rw [digest64_eq, digest64_eq, hl, List.append_assoc, List.append_assoc,
    (body64_loop _).append hpre, (body64_loop _).append hpre, body64_word, body64_word] at h
  exact step64_inj_k d64Mul_inv (body64_m64_inj (mix64_inj h))

theorem block_injective32 (seed : BitVec 32) (pre post : List Nat) (hpre : pre.length % 4 = 0)
    (w1 w2 : BitVec 32)
    (h : digest32 seed (pre ++ bytesOfWord32 w1 ++ post) = digest32 seed (pre ++ bytesOfWord32 w2 ++ post)) :
    w1 = w2 := by
  have hl :
      (pre ++ bytesOfWord32 w1 ++ post).length = (pre ++ bytesOfWord32 w2 ++ post).length := by
    simp only [List.length_append, length_bytesOfWord32]
  rw [digest32_eq, digest32_eq, hl, List.append_assoc, List.append_assoc,
    (body32_loop _).append hpre, (body32_loop _).append hpre, body32_word, body32_word] at h
  exact step32_inj_k (body32_inj ((BitVec.xor_left_inj _).mp (mix32_inj h)))

/-- MurmurHash3-32: zero-extending within the tail block always changes the digest. -/
theorem length_zero_extension32 (seed : BitVec 32) (d : List Nat) (k : Nat) (hk : 0 < k)
    (hb : (d.length + k) / 4 = d.length / 4) (hlen : d.length + k < 2 ^ 32) :
    digest32 seed (d ++ List.replicate k 0) ≠ digest32 seed d := by
  intro e
  rw [digest32_eq, digest32_eq, body32_append_zeros _ _ hb, List.length_append,
    List.length_replicate] at e
  exact ofNat_ne_of_lt 32 _ k hk hlen ((BitVec.xor_right_inj _).mp (mix32_inj e))

/-- fasthash64, PARTIAL: zero-extending a non-empty tail block always changes the digest.
(The full statement — also when the old length is a multiple of 8 — is FALSE for the algorithm:
see `length_zero_extension64_counterexample`.) -/
theorem length_zero_extension64_partial (seed : BitVec 64) (d : List Nat) (k : Nat) (hk : 0 < k)
    (hr : d.length % 8 ≠ 0) (hb : (d.length + k) / 8 = d.length / 8) (hlen : d.length + k < 2 ^ 64) :
    digest64 seed (d ++ List.replicate k 0) ≠ digest64 seed d := by
  intro e
  rw [digest64_eq, digest64_eq, body64_append_zeros _ _ hb hr, List.length_append,
    List.length_replicate] at e
  exact ofNat_ne_of_lt 64 _ k hk hlen
    (mul_inj_of_inv d64Mul_inv ((BitVec.xor_right_inj _).mp (body64_m64_inj (mix64_inj e))))

/-- fasthash64 from a block-aligned length of at most one block: adding 1..7 zero bytes changes the
digest. -/
theorem length_zero_extension64_short (seed : BitVec 64) (d : List Nat) (k : Nat) (hk : 0 < k) (hk7 : k < 8)
    (hd : d.length = 0 ∨ d.length = 8) :
    digest64 seed (d ++ List.replicate k 0) ≠ digest64 seed d := by
  intro e
  rw [digest64_eq, digest64_eq, body64_zeros_aligned _ _ (by omega) hk hk7, List.length_append,
    List.length_replicate] at e
  have e1 := mix64_inj e
  rcases hd with hd | hd
  · obtain rfl := List.eq_nil_of_length_eq_zero hd
    exact lengthTerm_ne (.inl rfl) hk hk7 seed e1
  · have hb : ∀ h, body64 m64 h d = step64 m64 h (leWord64 d) := fun h => by
      simpa only [List.append_nil, (body64_loop m64).nil] using (body64_loop m64).block h d [] hd
    rw [hb, hb, step64, step64] at e1
    -- the block's contribution `x` is the same on both sides: move it next to the seed
    generalize mix64 _ = x at e1
    rw [xor_right_comm seed _ x, xor_right_comm seed _ x] at e1
    exact lengthTerm_ne (.inr hd) hk hk7 _ (mul_inj_of_inv d64Mul_inv e1)

/-- Kernel-checked witness that the unrestricted length clause fails for fasthash64 (recorded as a
known finding; replayed on the implementation by bin/check C13): 16 bytes and the same 16 bytes
followed by four zero bytes have the same digest under this seed. -/
theorem length_zero_extension64_counterexample :
    digest64 (BitVec.ofNat 64 18357787755532864394)
      [0x00, 0xbf, 0xa9, 0x66, 0xa0, 0x97, 0xa8, 0x92, 0x3a, 0xa8, 0x3d, 0xbb, 0x32, 0xef, 0x82, 0x7f] =
    digest64 (BitVec.ofNat 64 18357787755532864394)
      ([0x00, 0xbf, 0xa9, 0x66, 0xa0, 0x97, 0xa8, 0x92, 0x3a, 0xa8, 0x3d, 0xbb, 0x32, 0xef, 0x82, 0x7f] ++
        [0, 0, 0, 0]) := by
  decide

/-- The aligned and the general variant use the same constants. -/
theorem aligned_constants_eq : d64MulAligned = d64Mul ∧ k32Aligned = k32 :=
  ⟨d64MulAligned_eq, k32Aligned_eq⟩

end Zix.C13

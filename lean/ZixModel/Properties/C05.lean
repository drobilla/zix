import ZixModel.Model.Ring
import ZixModel.Lemmas.Ring
/-! # C05 — ring is an all-or-nothing bounded byte FIFO with atomic transactions -/
namespace Zix.C05
open Zix.Ring

/-- `zix_ring_new` refuses exactly the sizes whose rounding does not fit 32 bits — zero and
everything above 2^31 — and no others (before the repair such a ring had a zero-byte buffer and a
capacity of 2^32 - 1). -/
theorem ring_new_refuses_iff (s : Nat) (h : s < 2 ^ 32) :
    new? s = none ↔ (s = 0 ∨ 2 ^ 31 < s) := by
  rw [← nextPow2_eq_zero_iff h]
  fun_cases new? s <;> simp [*]

/-- A ring that is created is the one `new` describes (so every theorem below applies to it). -/
theorem ring_new_some (s : Nat) (h1 : 1 ≤ s) (h2 : s ≤ 2 ^ 31) : new? s = some (new s) := by
  have hpos := nextPow2_pos s h1 h2
  unfold new?
  rw [if_neg (by omega)]

/-- For 1 ≤ s ≤ 2^31 the bit smear returns the least power of two ≥ s. -/
theorem next_pow2_spec (s : Nat) (h1 : 1 ≤ s) (h2 : s ≤ 2 ^ 31) :
    ∃ k, k ≤ 31 ∧ nextPow2 s = 2 ^ k ∧ s ≤ 2 ^ k ∧ (k = 0 ∨ 2 ^ (k - 1) < s) :=
  nextPow2_spec s h1 h2

theorem new_wf (s : Nat) (h1 : 1 ≤ s) (h2 : s ≤ 2 ^ 31) : WF (new s) ∧ content (new s) = [] := by
  obtain ⟨k, hk, e, _, _⟩ := nextPow2_spec s h1 h2
  have hpos := nextPow2_pos s h1 h2
  exact ⟨⟨⟨k, hk, e⟩, hpos, hpos, List.length_replicate⟩, content_nil rfl⟩

/-- capacity = (least power of two ≥ s) − 1 -/
theorem new_capacity (s : Nat) (h1 : 1 ≤ s) (h2 : s ≤ 2 ^ 31) :
    capacity (new s) = nextPow2 s - 1 :=
  capacity_eq _ (new_wf s h1 h2).1.pow

/-- read_space + write_space = capacity, always. -/
theorem ring_space_sum (g : Ring) (h : WF g) : readSpace g + writeSpace g = capacity g := by
  have hlt := h.readSpace_lt
  rw [capacity_eq g h.pow, writeSpace_eq h]
  omega

theorem begin_ok (g : Ring) (h : WF g) : TxOk g (beginWrite g) [] := beginWrite_ok h

/-- Amending is invisible to readers, accumulates the bytes contiguously, and fails with NO_MEM
exactly when the transaction would exceed the free space it saw at `begin`. -/
theorem tx_amend (g : Ring) (h : WF g) (tx : Tx) (p d : List Nat) (ht : TxOk g tx p) :
    (d.length ≤ writeSpaceAt g tx.r tx.w →
      ∃ g' tx', amend g tx d = some (g', tx') ∧ WF g' ∧ content g' = content g ∧
        g'.r = g.r ∧ g'.w = g.w ∧ TxOk g' tx' (p ++ d)) ∧
    (writeSpaceAt g tx.r tx.w < d.length → amend g tx d = none) :=
  ⟨fun hd => let ⟨e, hw, hc, ht'⟩ := amend_ok h ht hd; ⟨_, _, e, hw, hc, rfl, rfl, ht'⟩,
   amend_none g tx d⟩

/-- What a transaction sees as free, its pending bytes, the stored data and the stretch by which
its copy of the read head is stale add up to the capacity: a read moves bytes from the third
summand to the fourth, so the free space the transaction sees shrinks only by what it amends. -/
theorem tx_write_space (g : Ring) (h : WF g) (tx : Tx) (p : List Nat) (ht : TxOk g tx p) :
    writeSpaceAt g tx.r tx.w + p.length + readSpace g + ((g.r + W32 - tx.r) % W32) % g.size = g.size - 1 := by
  have hfit := ht.fits'
  show _ + readSpaceAt g tx.r g.r = _
  rw [writeSpaceAt_eq g h.pow ht.rlt ht.wlt, (ht.span h).2]
  omega

/-- Commit publishes all amended bytes at once, contiguously, as one write. -/
theorem tx_commit_is_one_write (g : Ring) (h : WF g) (tx : Tx) (p : List Nat) (ht : TxOk g tx p) :
    WF (commit g tx) ∧ content (commit g tx) = content g ++ p :=
  commit_ok h ht

/-- Reading while a transaction is open keeps it consistent (the reader only makes its read head
stale). -/
theorem tx_survives_read (g : Ring) (h : WF g) (tx : Tx) (p : List Nat) (ht : TxOk g tx p)
    (n : Nat) (hn : n < W32) : TxOk (read g n).1 tx p := by
  have _ := hn  -- `hn` is not needed: a successful request is below `size ≤ 2^31` anyway
  rw [read_eq h n]
  split
  · exact (consume_ok h ‹_›).2.2 tx p ht
  · exact ht

/-- Skipping while a transaction is open keeps it consistent (the analogue of
`tx_survives_read`). -/
theorem tx_survives_skip (g : Ring) (h : WF g) (tx : Tx) (p : List Nat) (ht : TxOk g tx p)
    (n : Nat) : TxOk (skip g n).1 tx p := by
  rw [skip_eq h n]
  split
  · exact (consume_ok h ‹_›).2.2 tx p ht
  · exact ht

/-- `write` succeeds exactly when the request fits the free space, then appends exactly the bytes;
otherwise it returns 0 and changes nothing. -/
theorem write_refines (g : Ring) (h : WF g) (d : List Nat) :
    (d.length ≤ writeSpace g →
      (write g d).2 = d.length ∧ WF (write g d).1 ∧ content (write g d).1 = content g ++ d) ∧
    (writeSpace g < d.length → write g d = (g, 0)) := by
  rw [write_eq h d]
  refine ⟨fun hd => ?_, fun hd => if_neg (Nat.not_le.2 hd)⟩
  rw [if_pos hd]
  exact ⟨rfl, produce_ok h hd⟩

/-- `read` succeeds exactly when the request fits the stored data and then delivers the oldest
`n` bytes and removes them; otherwise nothing happens. -/
theorem read_refines (g : Ring) (h : WF g) (n : Nat) (hn : n < W32) :
    (n ≤ readSpace g →
      (read g n).2 = some ((content g).take n) ∧ WF (read g n).1 ∧
      content (read g n).1 = (content g).drop n) ∧
    (readSpace g < n → read g n = (g, none)) := by
  have _ := hn  -- not needed, as in `tx_survives_read`
  rw [read_eq h n]
  refine ⟨fun hle => ?_, fun hlt => if_neg (Nat.not_le.2 hlt)⟩
  rw [if_pos hle]
  obtain ⟨hw, hc, _⟩ := consume_ok h hle
  exact ⟨rfl, hw, hc⟩

/-- `peek` delivers the same bytes as `read` would and consumes nothing (it returns no new
state). -/
theorem peek_refines (g : Ring) (h : WF g) (n : Nat) :
    (n ≤ readSpace g → peek g n = some ((content g).take n)) ∧
    (readSpace g < n → peek g n = none) := by
  rw [peek_eq h n]
  exact ⟨fun hle => if_pos hle, fun hlt => if_neg (Nat.not_le.2 hlt)⟩

theorem skip_refines (g : Ring) (h : WF g) (n : Nat) (hn : n < W32) :
    (n ≤ readSpace g →
      (skip g n).2 = true ∧ WF (skip g n).1 ∧ content (skip g n).1 = (content g).drop n) ∧
    (readSpace g < n → skip g n = (g, false)) := by
  have _ := hn  -- not needed, as in `tx_survives_read`
  rw [skip_eq h n]
  refine ⟨fun hle => ?_, fun hlt => if_neg (Nat.not_le.2 hlt)⟩
  rw [if_pos hle]
  obtain ⟨hw, hc, _⟩ := consume_ok h hle
  exact ⟨rfl, hw, hc⟩

theorem reset_refines (g : Ring) (h : WF g) : WF (reset g) ∧ content (reset g) = [] := by
  have hpos := P2.pos h.pow
  exact ⟨⟨h.pow, hpos, hpos, h.blen⟩, content_nil rfl⟩

example : WF (new 5) := (new_wf 5 (by decide) (by decide)).1
example : (write (new 5) [1, 2, 3]).2 = 3 := by decide
example : (read (write (new 5) [1, 2, 3]).1 2).2 = some [1, 2] := by decide

end Zix.C05

import ZixModel.Model.Status
import ZixModel.Lemmas.StrView
/-! # C20 — status messages total and well-formed; string views compare and copy exactly

The status tables come from `Generated/Status.lean`, which is re-extracted from
`include/zix/status.h` and `src/status.c` on every run; the `decide` proofs below are therefore
re-checked against what the code says now. -/
namespace Zix.C20
open Zix.Generated Zix.Status Zix.StrView

/-- Every defined status gets the description its enumerator has in the header. -/
theorem strerror_matches_header : ∀ p ∈ statusEnum, strerror p.1 = p.2 := by decide

/-- Defined statuses have pairwise different values. -/
theorem enum_values_nodup : enumValues.Nodup := by decide

/-- A different message for each defined status (nothing is said about the generic message). -/
theorem strerror_distinct : (enumValues.map strerror).Nodup := by decide

/-- Messages of defined statuses are non-empty, one sentence, upper-case first letter,
no trailing period. -/
theorem strerror_wellformed_enum : ∀ v ∈ enumValues, wellFormed (strerror v) = true := by decide

/-- The `case` labels are all enumerators, so nothing outside the enumeration is special-cased. -/
theorem cases_subset_enum : ∀ c ∈ strerrorCases, c.1 ∈ enumValues := by decide

/-- The generic message is literally "Unknown error". -/
theorem strerror_default_text :
    strerrorDefault = [85, 110, 107, 110, 111, 119, 110, 32, 101, 114, 114, 111, 114] := by decide

/-- Any integer outside the enumeration yields the generic message (all of `Int`, no bound). -/
theorem strerror_out_of_range (v : Int) (h : v ∉ enumValues) : strerror v = strerrorDefault := by
  have : strerrorCases.lookup v = none :=
    List.lookup_eq_none_iff.2 fun p hp => bne_iff_ne.2 fun e => h (e ▸ cases_subset_enum p hp)
  rw [strerror, this]; rfl

/-- Totality and well-formedness for every integer. -/
theorem strerror_total_wellformed (v : Int) : wellFormed (strerror v) = true := by
  by_cases h : v ∈ enumValues
  · exact strerror_wellformed_enum v h
  · rw [strerror_out_of_range v h]; decide

/-! The two messages that the property's statement spells out. -/

theorem strerror_success : strerror 0 = [83, 117, 99, 99, 101, 115, 115] := by decide

theorem strerror_no_mem : strerror 2 = [79, 117, 116, 32, 111, 102, 32, 109, 101, 109, 111, 114, 121] := by decide

/-- `zix_string_view_equals` is true exactly when lengths and bytes agree, for every pair of
in-bounds views of one storage: disjoint, overlapping, identical, empty, with NULs. -/
theorem view_equals_iff (mem : List Nat) (l r : View)
    (hl : l.off + l.len ≤ mem.length) (hr : r.off + r.len ≤ mem.length) :
    viewEquals mem l r = true ↔ l.len = r.len ∧ l.bytes mem = r.bytes mem := by
  have _ := hl; have _ := hr  -- not needed: a read beyond the storage is `none` on both sides
  exact viewEquals_iff mem l r

/-- `zix_string_view_copy` returns exactly the viewed bytes followed by one NUL. -/
theorem view_copy_exact (mem : List Nat) (v : View) (h : v.off + v.len ≤ mem.length) :
    (viewCopy mem v).length = v.len + 1 ∧
    (viewCopy mem v).take v.len = v.bytes mem ∧
    (viewCopy mem v)[v.len]? = some 0 := by
  have hl := bytes_length mem v h
  unfold viewCopy
  refine ⟨by simp [hl], ?_, ?_⟩
  · rw [List.take_append_of_le_length (by omega)]; rw [List.take_of_length_le (by omega)]
  · rw [List.getElem?_append_right (by omega)]; simp [hl]

example : (14 : Int) ∉ enumValues ∧ (-1 : Int) ∉ enumValues ∧ (13 : Int) ∈ enumValues := by decide
-- overlapping, equal-content views of one storage: "abab" [0,2) and [2,4)
example : viewEquals [97, 98, 97, 98] ⟨0, 2⟩ ⟨2, 2⟩ = true := by decide
-- embedded NUL, differing after it
example : viewEquals [0, 1, 0, 2] ⟨0, 2⟩ ⟨2, 2⟩ = false := by decide

end Zix.C20

import ZixModel.Model.CopyFile
import ZixModel.Lemmas.CopyFile
/-! # C14 — copy_file reports success only for a complete copy and never harms the source

`fault : Call → Nat → Option Fault` is an ARBITRARY oracle: the n-th call of each kind may fail with
any errno or transfer any short count.  Assumed of the platform: a failing call sets errno to a
non-zero value (`Legal`).  Built into the model: a successful call leaves errno unchanged; a `read`
or `copy_file_range` with bytes left to deliver delivers at least one (`max n 1` in `copyBlocks` and
`cfrLoop`: the source does not shrink during the call; in C a `copy_file_range` that returns 0 early
ends the kernel copy with SUCCESS); errno is 0 at entry (C inherits the caller's, which does not
matter: a status of 0 reaches `finishCopy` only behind an `errno = 0`). -/
namespace Zix.C14
open Zix.CopyFile Zix.Errno

/-- SUCCESS is returned only if the destination then holds exactly the source's bytes — for every
source, destination state, option value and every sequence of I/O outcomes. -/
-- ORIGINAL:
-- theorem copy_success_complete (w : World) (ow : Bool) (fault : Call → Nat → Option Fault)
--     (hl : Legal fault) (hs : (copyFile w ow fault).status = 0) :
--     (copyFile w ow fault).st.dst = some w.src
-- CORRECTED: false in the model for `w.blk = 0` (`copy_success_complete_needs_blk` below).  The C
-- code cannot get there: `zix_get_block_size` returns 4096 unless both `st_blksize` are positive,
-- so `0 < w.blk` is a fact about the caller of the modelled part.
theorem copy_success_complete (w : World) (ow : Bool) (fault : Call → Nat → Option Fault) (hl : Legal fault)
    (hblk : 0 < w.blk)
    (hs : (copyFile w ow fault).status = 0) :
    (copyFile w ow fault).st.dst = some w.src := by
  obtain ⟨s, dOpen, sOpen, st, hx, hf⟩ := copyFile_end w ow fault
  exact hf.dst.trans ((hx.success hl (hf.status_zero hs)).complete hblk)

/-- `copy_success_complete` needs `0 < w.blk`: with a zero-sized buffer (and the kernel copy
unavailable) the first `read` returns 0 bytes, which `copy_blocks` takes for end-of-file: SUCCESS
with an empty destination. -/
theorem copy_success_complete_needs_blk :
    let w : World := { srcKind := .regular, src := [1, 2, 3], dst := .absent, blk := 0 }
    let fault : Call → Nat → Option Fault := fun c n => if c = .cfr ∧ n = 0 then some (.err EXDEV) else none
    Legal fault ∧ (copyFile w true fault).status = 0 ∧ (copyFile w true fault).st.dst = some [] := by
  refine ⟨?_, by decide, by decide⟩
  intro c n e h
  simp only at h
  split at h
  · simp only [Option.some.injEq, Fault.err.injEq] at h
    subst h
    decide
  · exact absurd h (by simp)

/-- The source's contents are never modified, whatever happens.  (By construction: no operation of
the model writes `St.src`, and a destination that is the source is a field of its own.  That such a
destination is not truncated is `copy_onto_itself_refused`.) -/
theorem copy_source_untouched (w : World) (ow : Bool) (fault : Call → Nat → Option Fault) :
    (copyFile w ow fault).st.src = w.src := by
  obtain ⟨s, dOpen, sOpen, st, hx, hf⟩ := copyFile_end w ow fault
  exact hf.calls.src.trans hx.run.src

/-- No failing I/O call (short counts, an unavailable kernel copy — EXDEV / EINVAL / ENOSYS from
copy_file_range —, a refused block allocation and whatever the allocator's release leaves in errno
are not failures; `hok` is `Tolerated` written out) and two different regular files (or a fresh
destination): SUCCESS. -/
theorem copy_no_faults_succeeds (w : World) (ow : Bool) (fault : Call → Nat → Option Fault)
    (hreg : w.srcKind = .regular) (hblk : 0 < w.blk)
    (hdst : w.dst = .absent ∨ (ow = true ∧ ∃ c, w.dst = .file c))
    (hok : ∀ c n e, fault c n = some (.err e) →
      (c = .alloc ∨ c = .free ∨ (c = .cfr ∧ (e = EXDEV ∨ e = EINVAL ∨ e = ENOSYS))))
    (hshort : ∀ c n k, fault c n = some (.short k) → 0 < k) :
    (copyFile w ow fault).status = 0 := by
  -- not needed: a zero-sized buffer only makes the copy incomplete, not unsuccessful
  have _ := hblk
  refine Classical.byContradiction fun hne => ?_
  cases copyFile_failure_has_cause w ow fault hne with
  | failed hf hc => exact hc (hok _ _ _ hf)
  | stuck hf => exact absurd (hshort _ _ _ hf) (by decide)
  | source h => exact h hreg
  | dest h => exact h hdst

/-- Without the overwrite option an existing destination file is never changed, whatever the source
is and whichever calls fail. -/
theorem copy_excl_never_modifies (w : World) (fault : Call → Nat → Option Fault) (c : List Nat)
    (hd : w.dst = .file c) : (copyFile w false fault).st.dst = some c :=
  copyFile_kept w false fault c (by simp [initSt, hd]) (Or.inr rfl)

/-- Without the overwrite option an existing destination is left untouched and EXISTS is returned
(when the source could be opened and examined). -/
theorem copy_excl_exists (w : World) (fault : Call → Nat → Option Fault) (c : List Nat)
    (hreg : w.srcKind = .regular) (hd : w.dst = .file c)
    (h1 : fault .openSrc 0 = none) (h2 : fault .fstatSrc 0 = none) (h3 : ∀ e, fault .openDst 0 ≠ some (.err e)) :
    (copyFile w false fault).status = 4 ∧ (copyFile w false fault).st.dst = some c :=
  ⟨copyFile_excl_status w fault c hd hreg h1 h2 h3, copy_excl_never_modifies w fault c hd⟩

/-- A source that is not a regular file is refused with an error. -/
theorem copy_refuses_nonregular (w : World) (ow : Bool) (fault : Call → Nat → Option Fault) (hl : Legal fault)
    (hk : w.srcKind ≠ .regular) : (copyFile w ow fault).status ≠ 0 := by
  obtain ⟨s, dOpen, sOpen, st, hx, hf⟩ := copyFile_end w ow fault
  exact fun h0 => hk (hx.success hl (hf.status_zero h0)).regular

/-- A destination that is the source itself (same path, hard link, symlink) is refused and the
source keeps its bytes. -/
theorem copy_onto_itself_refused (w : World) (ow : Bool) (fault : Call → Nat → Option Fault) (hl : Legal fault)
    (hd : w.dst = .sameAsSrc) :
    (copyFile w ow fault).status ≠ 0 ∧ (copyFile w ow fault).st.dst = some w.src := by
  refine ⟨?_, copyFile_kept w ow fault w.src (by simp [initSt, hd]) (Or.inl hd)⟩
  obtain ⟨s, dOpen, sOpen, st, hx, hf⟩ := copyFile_end w ow fault
  exact fun h0 => (hx.success hl (hf.status_zero h0)).notSame hd

/-- SUCCESS is never returned when closing either descriptor, or the final `fdatasync`, failed:
a failing close of the destination can mean lost data, and `zix_system_close_fds` must report it
(its tests were inverted before the repair). -/
theorem copy_close_failure_reported (w : World) (ow : Bool) (fault : Call → Nat → Option Fault) (hl : Legal fault)
    (hs : (copyFile w ow fault).status = 0) :
    (∀ e, fault .closeDst 0 ≠ some (.err e)) ∧ (∀ e, fault .closeSrc 0 ≠ some (.err e)) ∧
    (∀ e, fault .fdatasync 0 ≠ some (.err e)) := by
  obtain ⟨s, dOpen, sOpen, st, hx, hf⟩ := copyFile_end w ow fault
  obtain ⟨rfl, rfl⟩ := (hx.success hl (hf.status_zero hs)).both
  -- the three calls are the first of their kind
  have f := fun c hc => congrArg (fault c) (hx.run.fresh c hc)
  exact ⟨fun e he => hf.bad .closeDst e (by simp) ((f _ (by decide)).trans he) (hl _ _ _ he) hs,
    fun e he => hf.bad .closeSrc e (by simp) ((f _ (by decide)).trans he) (hl _ _ _ he) hs,
    fun e he => hf.bad .fdatasync e (by simp) ((f _ (by decide)).trans he) (hl _ _ _ he) hs⟩

/-- A source that reports no size (`sizeKnown = false`: `st_size` is 0 whatever the content, as for
procfs text files) never meets the kernel copy: no `copy_file_range` call is made, the bytes go
through the read/write loop. (`copy_success_complete` and `copy_no_faults_succeeds` hold for such
sources too — they quantify over every `World`.) -/
theorem copy_unsized_skips_kernel_copy (w : World) (ow : Bool) (fault : Call → Nat → Option Fault)
    (hk : w.sizeKnown = false) : (copyFile w ow fault).st.count .cfr = 0 := by
  obtain ⟨s, dOpen, sOpen, st, hx, hf⟩ := copyFile_end w ow fault
  exact (hf.calls.count (by decide)).trans (hx.run.cfr hk)

/-- Every descriptor opened is closed, on every path. -/
theorem copy_closes_all (w : World) (ow : Bool) (fault : Call → Nat → Option Fault) :
    (copyFile w ow fault).st.opened = (copyFile w ow fault).st.closed := by
  obtain ⟨s, dOpen, sOpen, st, hx, hf⟩ := copyFile_end w ow fault
  rw [hf.calls.opened, hf.calls.closed, hx.run.opened, hx.run.closed, Nat.zero_add]

-- cross-filesystem copy (the kernel copy answers EXDEV) with a short first write: SUCCESS
example :
    (copyFile { srcKind := .regular, src := [1, 2, 3, 4, 5], dst := .file [9, 9], blk := 4 } true
      (fun c n =>
        if c = .cfr ∧ n = 0 then some (.err EXDEV)
        else if c = .write ∧ n = 0 then some (.short 1) else none)).status = 0 := by
  decide

example :
    (copyFile { srcKind := .directory, src := [], dst := .absent, blk := 4096 } true
      (fun _ _ => none)).status = stBadArg := by
  decide

-- a source that reports no size is copied completely through the read/write loop
example :
    let r := copyFile
      { srcKind := .regular, src := [1, 2, 3], dst := .absent, blk := 2, sizeKnown := false } false
      (fun _ _ => none)
    r.status = 0 ∧ r.st.dst = some [1, 2, 3] := by decide

-- a failing close of the destination is reported, and so is a failing close of the source
example : (copyFile { srcKind := .regular, src := [1], dst := .absent, blk := 2 } false
    (fun c _ => if c = .closeDst then some (.err EIO) else none)).status ≠ 0 := by decide

example : (copyFile { srcKind := .regular, src := [1], dst := .absent, blk := 2 } false
    (fun c _ => if c = .closeSrc then some (.err EIO) else none)).status ≠ 0 := by decide

-- errno left behind by the allocator's release does not turn a complete copy into an error
example : (copyFile { srcKind := .regular, src := [1], dst := .absent, blk := 2 } false
    (fun c _ =>
      if c = .cfr then some (.err EXDEV)
      else if c = .free then some (.err 12) else none)).status = 0 := by
  decide

end Zix.C14

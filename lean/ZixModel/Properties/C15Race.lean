import ZixModel.Properties.C15LinkInst
/-! # C15, create_directories while other processes act on the file system

`createDirectoriesE` is the walk of `zix_create_directories` with an environment: `env k p` is
applied between the failed "is it a directory?" test of a prefix and the `k`-th `mkdir p`; an
`mkdir` that fails with a status of EXISTS is followed by a second test of the same prefix, and the
walk goes on if it names a directory by now.  The theorems hold for EVERY state type, every
`isDir`/`mkdir` obeying `OsLaws` and every environment obeying `EnvLaws`.  Those about a reported
error ask in addition that an mkdir of an existing directory fails with EEXIST (`MkdirHonest`; the
proofs use only `MkdirEexist`: IF it fails, then so), and `failure_not_dir_needs_eexist` shows that
this is needed.  The tree with symbolic links is such an operating system (`linkTree_honest`) and
its racing creator `racer dirs files` such an environment (`racer_laws`), for directories AND
files. -/
namespace Zix.C15Race
open Zix.Path Zix.FsLink Zix.MkdirsWalk Zix.C15Link

/-- What the race argument needs of `MkdirHonest`: IF an mkdir of something that already is a
directory fails, its errno maps to EXISTS.  (Whether it fails at all does not matter: a success lets
the walk go on.)  With `EnvLaws` it gives `RaceEexist`, which is all the walk is asked to know. -/
def MkdirEexist {σ : Type} (inv : σ → Prop) (isDir : σ → List Nat → Bool)
    (mkdir : σ → List Nat → σ × Option Int) : Prop :=
  ∀ t p t' e, inv t → isDir t p = true → mkdir t p = (t', some e) → Zix.Errno.errnoStatus e = 4

variable {σ : Type} {inv : σ → Prop} {isDir : σ → List Nat → Bool}
  {mkdir : σ → List Nat → σ × Option Int} {env : Nat → List Nat → σ → σ}

theorem MkdirHonest.eexist (H : MkdirHonest inv isDir mkdir) : MkdirEexist inv isDir mkdir := by
  intro t p t' e ht hd hm
  obtain ⟨e', h1, h2⟩ := H t p ht hd
  rw [h1] at hm
  simp only [Prod.mk.injEq, Option.some.injEq] at hm
  rw [← hm.2]; exact h2

theorem MkdirEexist.race (H : MkdirEexist inv isDir mkdir) (E : EnvLaws inv isDir env) :
    RaceEexist inv isDir mkdir env :=
  fun k p t t' e ht _ hd hm => H _ p t' e (E.env_inv k p t ht) hd hm

/-- SUCCESS is only reported when the path names a directory at the end, whatever the other
processes did (as long as they remove no directory). -/
theorem mkdirsE_success_dir (L : OsLaws inv isDir mkdir) (E : EnvLaws inv isDir env) (t : σ) (ht : inv t)
    (s : List Nat) (h0 : 0 ∉ s) (hs : s ≠ [])
    (h : (createDirectoriesE isDir mkdir env t s).2 = 0) :
    isDir (createDirectoriesE isDir mkdir env t s).1 s = true :=
  (mkdirsE_path L E s h0 hs t ht).1 h

/-- An error is only reported when the path does not name a directory in the state in which the
call ends. -/
theorem mkdirsE_failure_not_dir (L : OsLaws inv isDir mkdir) (E : EnvLaws inv isDir env)
    (H : MkdirHonest inv isDir mkdir) (t : σ) (ht : inv t) (s : List Nat) (h0 : 0 ∉ s) (hs : s ≠ [])
    (h : (createDirectoriesE isDir mkdir env t s).2 ≠ 0) :
    isDir (createDirectoriesE isDir mkdir env t s).1 s = false :=
  (mkdirsE_path L E s h0 hs t ht).2 h (H.eexist.race E)

/-- More precisely, a failure always points at a visited prefix that is not a directory in the state
in which the call ends. -/
theorem mkdirsE_failure_has_culprit (L : OsLaws inv isDir mkdir) (E : EnvLaws inv isDir env)
    (H : MkdirHonest inv isDir mkdir) (t : σ) (ht : inv t) (s : List Nat) (hs : s ≠ [])
    (h : (createDirectoriesE isDir mkdir env t s).2 ≠ 0) :
    ∃ pre, (∃ f ∈ (allFrames s).filter (fun f => f.state = .fileName), pre = s.take f.range.2) ∧
      isDir (createDirectoriesE isDir mkdir env t s).1 pre = false := by
  obtain ⟨f, hf, hfd⟩ := (mkdirsE_end L E s hs t ht).fail h (H.eexist.race E)
  exact ⟨s.take f.range.2, ⟨f, hf, rfl⟩, hfd⟩

/-- The point of the second test: if every visited prefix names a directory in the state in which
the call ends — in particular if every mkdir that failed did so because someone else had just
created that directory — the call reports SUCCESS. -/
theorem mkdirsE_race_tolerated (L : OsLaws inv isDir mkdir) (E : EnvLaws inv isDir env)
    (H : MkdirHonest inv isDir mkdir) (t : σ) (ht : inv t) (s : List Nat) (hs : s ≠ [])
    (hall : ∀ f ∈ (allFrames s).filter (fun f => f.state = .fileName),
      isDir (createDirectoriesE isDir mkdir env t s).1 (s.take f.range.2) = true) :
    (createDirectoriesE isDir mkdir env t s).2 = 0 := by
  apply Classical.byContradiction
  intro hn
  obtain ⟨pre, ⟨f, hf, hpre⟩, hd⟩ := mkdirsE_failure_has_culprit L E H t ht s hs hn
  rw [hpre, hall f hf] at hd
  exact absurd hd (by simp)

/-- Whatever the outcome and whatever the others do, the state stays well formed and every path
that named a directory still does. -/
theorem mkdirsE_dirs_stay (L : OsLaws inv isDir mkdir) (E : EnvLaws inv isDir env) (t : σ) (ht : inv t)
    (s : List Nat) :
    inv (createDirectoriesE isDir mkdir env t s).1 ∧
    ∀ q, isDir t q = true → isDir (createDirectoriesE isDir mkdir env t s).1 q = true :=
  mkdirsE_stay L E t ht s

/-- When nobody interferes the walk with the second test is the plain walk: a failed mkdir leaves
the state unchanged, so the second test gives the same "no". -/
theorem mkdirsE_no_interference (L : OsLaws inv isDir mkdir) (t : σ) (ht : inv t) (s : List Nat) :
    createDirectoriesE isDir mkdir (fun _ _ t => t) t s = createDirectoriesG isDir mkdir t s :=
  mkdirsE_quiet L t ht s

/-- The identity environment obeys the laws. -/
theorem idEnv_laws (inv : σ → Prop) (isDir : σ → List Nat → Bool) :
    EnvLaws inv isDir (fun _ _ t => t) :=
  quiet_laws

theorem linkTree_honest :
    MkdirHonest TreeOK (fun t s => FsLink.isDir t (cstr s)) (fun t s => FsLink.mkdir t (cstr s)) :=
  fun t p _ hd => ⟨17, mkdir_of_isDir t (cstr p) hd, by decide⟩

theorem racer_cases (dirs files : List Nat) (k : Nat) (p : List Nat) (t : Tree) :
    racer dirs files k p t = t ∨
    ∃ par last kd, (kd = Kind.dir ∨ kd = Kind.file) ∧ last ∈ comps p ∧ t.lookup par = some .dir ∧
      last ≠ [dot] ∧ last ≠ [dot, dot] ∧ t.lookup (par ++ [last]) = none ∧
      racer dirs files k p t = addNode t (par ++ [last]) kd := by
  unfold racer
  cases hm : FsLink.mkdir t p with
  | mk t' r =>
    cases r with
    | some e =>
      -- a failed mkdir changes nothing, whoever calls it
      left
      rw [(mkdir_err t t' p e hm).1]
      split
      · rfl
      · split <;> rfl
    | none =>
      obtain ⟨pre, par, last, hcs, _, hpk, hl1, hl2, hnone, rfl⟩ := mkdir_ok t t' p hm
      have hmem : last ∈ comps p := by rw [hcs]; simp
      by_cases hk : k ∈ dirs
      · rw [if_pos hk]
        exact Or.inr ⟨par, last, .dir, Or.inl rfl, hmem, hpk, hl1, hl2, hnone, rfl⟩
      · rw [if_neg hk]
        by_cases hf : k ∈ files
        · rw [if_pos hf]
          exact Or.inr ⟨par, last, .file, Or.inr rfl, hmem, hpk, hl1, hl2, hnone, by simp [addNode]⟩
        · rw [if_neg hf]; exact Or.inl rfl

/-- The racing creator — putting directories before the mkdir calls numbered in `dirs` and files
before those in `files` — keeps trees well formed and never removes a directory.  (As for
`linkTree_laws`, strings are read up to their first NUL.) -/
theorem racer_laws (dirs files : List Nat) :
    EnvLaws TreeOK (fun t s => FsLink.isDir t (cstr s)) (fun k p t => racer dirs files k (cstr p) t) := by
  constructor
  · intro k p t ht
    rcases racer_cases dirs files k (cstr p) t with
      h | ⟨par, last, kd, hkd, hmem, hpk, hl1, hl2, hnone, h⟩
    · rw [h]; exact ht
    · rw [h]
      obtain ⟨hne, hsep, hnul⟩ := Zix.Fs.comps_mem _ _ hmem
      exact addNode_ok t ht par last kd hkd hpk ⟨hne, hsep, hnul (cstr_nul_free p), hl1, hl2⟩ hnone
  · intro k p t q _ hq
    rcases racer_cases dirs files k (cstr p) t with h | ⟨par, last, kd, _, _, _, _, _, _, h⟩
    · rw [h]; exact hq
    · rw [h]; exact isDir_le (addNode_le t _ _) rfl _ hq

theorem createDirectoriesRace_agree (dirs files : List Nat) (t : Tree) (s : List Nat) (h0 : 0 ∉ s) :
    createDirectoriesE (fun t s => FsLink.isDir t (cstr s)) (fun t s => FsLink.mkdir t (cstr s))
        (fun k p t => racer dirs files k (cstr p) t) t s =
      createDirectoriesRace dirs files t s :=
  createDirectoriesE_congr s (fun _ k => by rw [cstr_take_self s h0 k])
    (fun _ k => by rw [cstr_take_self s h0 k])
    (fun _ _ k => by rw [cstr_take_self s h0 k]) t

/-- With a racing creator of directories and files: SUCCESS exactly when the path names a directory
(following links) in the tree the call ends in. -/
theorem race_mkdirs_success_iff_dir (dirs files : List Nat) (t : Tree) (ht : TreeOK t) (s : List Nat)
    (h0 : 0 ∉ s) (hs : s ≠ []) :
    (createDirectoriesRace dirs files t s).2 = 0 ↔
      FsLink.isDir (createDirectoriesRace dirs files t s).1 s = true := by
  have h := mkdirsE_iff linkTree_laws (racer_laws dirs files)
    (linkTree_honest.eexist.race (racer_laws dirs files)) s h0 hs t ht
  simp only [createDirectoriesRace_agree dirs files t s h0, cstr_eq_self s h0] at h
  exact h

/-- With a racing creator: the tree stays well formed and directories stay directories. -/
theorem race_mkdirs_dirs_stay (dirs files : List Nat) (t : Tree) (ht : TreeOK t) (s : List Nat) (h0 : 0 ∉ s) :
    TreeOK (createDirectoriesRace dirs files t s).1 ∧
    ∀ q, 0 ∉ q → FsLink.isDir t q = true → FsLink.isDir (createDirectoriesRace dirs files t s).1 q = true := by
  have h := mkdirsE_dirs_stay linkTree_laws (racer_laws dirs files) t ht s
  simp only [createDirectoriesRace_agree dirs files t s h0] at h
  refine ⟨h.1, fun q hq hd => ?_⟩
  have := h.2 q (by rw [cstr_eq_self q hq]; exact hd)
  rwa [cstr_eq_self q hq] at this

/-- Without a racer this is `FsLink.createDirectories`. -/
theorem race_none (t : Tree) (ht : TreeOK t) (s : List Nat) (h0 : 0 ∉ s) :
    createDirectoriesRace [] [] t s = FsLink.createDirectories t s := by
  have h := mkdirsE_no_interference linkTree_laws t ht s
  rw [createDirectories_agree t s h0] at h
  rw [← h, ← createDirectoriesRace_agree [] [] t s h0]
  rfl

/-- an empty root directory, working directory "/" -/
def empty : Tree := ⟨[], []⟩

example : TreeOK empty := by
  constructor
  · intro p k h; cases h
  · intro p k h; cases h
  · intro p tgt h; cases h
  · decide
  · decide
  · intro c h; cases h

-- "a/b" while a racer creates "a" just before the library's first mkdir: that mkdir fails with
-- EEXIST …
example : (FsLink.mkdir (racer [0] [] 0 [97] empty) [97]).2 = some 17 := by decide

-- … and the call still succeeds, having created "a/b" under the racer's "a"
example : (createDirectoriesRace [0] [] empty [97, 47, 98]).2 = 0 := by decide

example :
    (createDirectoriesRace [0] [] empty [97, 47, 98]).1.nodes =
      [([[97]], .dir), ([[97], [98]], .dir)] := by
  decide

-- the racer also wins the second race (both mkdir calls of the library fail): still SUCCESS
example : (createDirectoriesRace [0, 1] [] empty [97, 47, 98]).2 = 0 := by decide

-- the racer puts a FILE at "a": mkdir fails with EEXIST, the second test says "not a directory":
-- EXISTS
example : (createDirectoriesRace [] [0] empty [97, 47, 98]).2 = 4 := by decide

example : (createDirectoriesRace [] [0] empty [97, 47, 98]).2 ≠ 0 := by decide

example :
    FsLink.isDir (createDirectoriesRace [] [0] empty [97, 47, 98]).1 [97, 47, 98] = false := by
  decide

-- nobody interferes: the plain walk
example :
    createDirectoriesRace [] [] empty [97, 47, 98] =
      FsLink.createDirectories empty [97, 47, 98] := by
  decide

/- An operating system obeying `OsLaws` in which mkdir of an existing directory fails with EACCES
(13), and an environment obeying `EnvLaws`: the walk reports an error although the path names a
directory in the state it ends in.  So `mkdirsE_failure_not_dir` (and `…_has_culprit`) do not hold
without `MkdirEexist`. -/

/-- state: does everything exist?  Strings of separators always name the root. -/
def eaccesIsDir (t : Bool) (s : List Nat) : Bool := t || (!s.isEmpty && s.all isSep)

def eaccesMkdir (t : Bool) (_ : List Nat) : Bool × Option Int :=
  if t then (t, some 13) else (true, none)

theorem eacces_laws : OsLaws (fun _ => True) eaccesIsDir eaccesMkdir where
  mkdir_inv := fun _ _ _ => trivial
  mkdir_ok_dir := fun t p t' _ h => by
    cases t <;> simp [eaccesMkdir] at h
    subst h; rfl
  mkdir_fail := fun t p t' e _ h => by
    cases t <;> simp [eaccesMkdir] at h
    obtain ⟨h1, h2⟩ := h
    subst h1 h2
    exact ⟨rfl, by decide⟩
  mkdir_mono := fun t p t' q _ h hq => by
    cases t
    · simp [eaccesMkdir] at h
      subst h
      rfl
    · simp [eaccesMkdir] at h
  prefix_closed := fun t s k _ hd hk0 hk _ => by
    cases t
    · simp only [eaccesIsDir, Bool.false_or, Bool.and_eq_true, Bool.not_eq_true', List.all_eq_true,
        List.isEmpty_eq_false_iff] at hd ⊢
      exact ⟨fun h => (List.take_eq_nil_iff.1 h).elim (Nat.ne_of_gt hk0) hd.1,
        fun c hc => hd.2 c ((List.take_sublist k s).subset hc)⟩
    · rfl
  root_dir := fun t s _ hs hall => by
    simp only [eaccesIsDir, Bool.or_eq_true, Bool.and_eq_true, Bool.not_eq_true', List.all_eq_true,
      List.isEmpty_eq_false_iff]
    exact Or.inr ⟨hs, hall⟩

theorem eacces_env_laws : EnvLaws (fun _ => True) eaccesIsDir (fun _ _ _ => true) :=
  ⟨fun _ _ _ _ => trivial, fun _ _ _ _ _ _ => rfl⟩

theorem failure_not_dir_needs_eexist :
    ¬ (∀ {σ : Type} {inv : σ → Prop} {isDir : σ → List Nat → Bool} {mkdir : σ → List Nat → σ × Option Int}
        {env : Nat → List Nat → σ → σ}, OsLaws inv isDir mkdir → EnvLaws inv isDir env →
        ∀ (t : σ), inv t → ∀ (s : List Nat), 0 ∉ s → s ≠ [] →
        (createDirectoriesE isDir mkdir env t s).2 ≠ 0 →
        isDir (createDirectoriesE isDir mkdir env t s).1 s = false) := by
  intro h
  have := h eacces_laws eacces_env_laws false trivial [97] (by decide) (by decide) (by decide)
  revert this
  decide

end Zix.C15Race

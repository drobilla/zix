import ZixModel.Model.EnvAlloc
import ZixModel.Properties.C16
import ZixModel.Lemmas.EnvAlloc
/-! # C07 / C08 for `zix_expand_environment_strings`: every allocation may fail

`Model/EnvAlloc.lean` is the scanner of `Model/Env.lean` with its output in a block of the caller's
allocator, grown by `realloc` in every `append_str`; `fails : Nat → Bool` is an ARBITRARY oracle
saying which requests are refused. -/
namespace Zix.C07Env
open Zix.Env Zix.EnvAlloc

/-- C07 + C08: for EVERY refusal pattern the call either returns NULL — then some request of this
call was refused and no block is left outstanding — or returns a block holding exactly the
specified expansion, which is then the only block outstanding (the caller's to release).  In both
cases the event log is well formed: every `realloc` / `free` names a block that is outstanding at
that moment, i.e. nothing is released twice or touched after its release. -/
theorem expandA_atomic_leak_free (fails : Nat → Bool) (env : List (List Nat)) (str : List Nat) (h : 0 ∉ str) :
    ∃ r, expandA fails env str = some r ∧
      ((r.ret = none ∧ outstanding r.evs [] = some [] ∧ ∃ k, fails k = true) ∨
       (∃ b, r.ret = some (b, spec env str) ∧ outstanding r.evs [] = some [b])) :=
  loop_rel fails env str _ 0 0 init [] inv_init _ (C16.expand_eq_spec env str h)

/-- The call returns, whatever is refused. -/
theorem expandA_terminates (fails : Nat → Bool) (env : List (List Nat)) (str : List Nat) (h : 0 ∉ str) :
    (expandA fails env str).isSome := by
  obtain ⟨r, hr, _⟩ := expandA_atomic_leak_free fails env str h
  rw [hr]; rfl

/-- With enough memory the call succeeds and returns the expansion. -/
theorem expandA_no_fault_succeeds (env : List (List Nat)) (str : List Nat) (h : 0 ∉ str) :
    ∃ r b, expandA (fun _ => false) env str = some r ∧ r.ret = some (b, spec env str) := by
  obtain ⟨r, hr, ⟨_, _, k, hk⟩ | ⟨b, hb, _⟩⟩ :=
    expandA_atomic_leak_free (fun _ => false) env str h
  · cases hk
  · exact ⟨r, b, hr, hb⟩

/-- Only requests actually made matter: two oracles that agree on the request indexes
`≤ 2 * str.length + 1` give the same result (each turn of the loop makes at most two requests, and
with the fuel `str.length + 1` there are at most that many turns: `Lemmas/EnvAlloc.loop_congr`). -/
theorem expandA_request_bound (f g : Nat → Bool) (env : List (List Nat)) (str : List Nat) (h : 0 ∉ str)
    (hfg : ∀ k, k ≤ 2 * str.length + 1 → f k = g k) : expandA f env str = expandA g env str := by
  have _ := h  -- not needed: the bound holds for every string
  exact loop_congr f g env str _ 0 0 init (fun k hk => hfg k (by simp only [init] at hk; omega))

-- "a$Xb" with X=12: three requests; refusing the second releases the first block
example : (expandA (fun k => k == 1) [[88, 61, 49, 50]] [97, 36, 88, 98]).map (·.evs)
    = some [.realloc none 2 (some 1), .realloc (some 1) 4 none, .free (some 1)] := by decide
example : (expandA (fun _ => false) [[88, 61, 49, 50]] [97, 36, 88, 98]).map (·.ret)
    = some (some (3, [97, 49, 50, 98])) := by decide
-- the empty string still allocates its terminator; refused: free(NULL)
example : (expandA (fun _ => true) [] []).map (·.evs)
    = some [.realloc none 1 none, .free none] := by decide

end Zix.C07Env

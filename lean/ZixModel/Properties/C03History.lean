import ZixModel.Properties.C03
import ZixModel.Spec.HashHistory
/-! # C03 at the level of whole histories: the hash table refines an abstract map

For every sequence of insert / find / remove / erase-at-an-iterator calls from `zix_hash_new`, every
key accessor `keyOf`, every hash function `codeOf` (constant, colliding, anything) and every pattern
of allocation failures: each output is one the abstract map (a duplicate-free list of live records
keyed by `keyOf`) allows, the set of live records is the abstract one, `zix_hash_size` is its size,
and iteration visits each live record exactly once. -/
namespace Zix.C03
open Zix.Hash

theorem abs_of_mem {keyOf codeOf : Nat → Nat} {t : Table} {live : List Nat} (h : Inv keyOf codeOf t)
    (hnd : live.Nodup) (hm : ∀ r, r ∈ liveRecs t ↔ r ∈ live) : Abs t live :=
  have hp := (List.perm_ext_iff_of_nodup (iterate_nodup h) hnd).2 hm
  ⟨hp, h.countEq.trans hp.length_eq⟩

theorem Abs.keysDistinct {keyOf codeOf : Nat → Nat} {t : Table} {live : List Nat} (ha : Abs t live)
    (h : Inv keyOf codeOf t) : KeysDistinct keyOf live :=
  (ha.1.map keyOf).nodup_iff.1 (nodup_map_liveList h.sinv.distinct)

theorem abs_remove {keyOf codeOf : Nat → Nat} {t t' : Table} {live : List Nat} {r0 : Nat}
    (ha : Abs t live) (h : Inv keyOf codeOf t) (h' : Inv keyOf codeOf t')
    (hm : ∀ r, r ∈ liveRecs t' ↔ r ∈ liveRecs t ∧ r ≠ r0) : Abs t' (live.filter (· ≠ r0)) := by
  refine abs_of_mem h' ((ha.1.nodup (iterate_nodup h)).sublist List.filter_sublist) fun a => ?_
  rw [List.mem_filter, decide_eq_true_eq, ← ha.1.mem_iff]
  exact hm a

theorem removed_allowed {s : Status} {ok : Bool} {r0 : Nat}
    (hs : s = .success ∨ (ok = false ∧ s = .noMem)) :
    Out.removed s r0 = .removed .success r0 ∨
      (ok = false ∧ Out.removed s r0 = .removed .noMem r0) := by
  rcases hs with rfl | ⟨o, rfl⟩
  · exact Or.inl rfl
  · exact Or.inr ⟨o, rfl⟩

/-- One call on a table that represents `live`: its output is one the abstract map allows, and the
table after it represents `specNext` of that output and keeps the invariant. -/
theorem step_refines (keyOf codeOf : Nat → Nat) (t : Table) (live : List Nat)
    (h : Inv keyOf codeOf t) (ha : Abs t live) (hk : KeysDistinct keyOf live) (op : Op) :
    let r := step keyOf codeOf t op
    let live' := specNext live op r.2
    Allowed keyOf live op r.2 ∧ Abs r.1 live' ∧ KeysDistinct keyOf live' ∧ Inv keyOf codeOf r.1 := by
  have _ := hk   -- not needed: it follows from `h` and `ha` (`Abs.keysDistinct`)
  suffices hS : Allowed keyOf live op (step keyOf codeOf t op).2 ∧
      Abs (step keyOf codeOf t op).1 (specNext live op (step keyOf codeOf t op).2) ∧
      Inv keyOf codeOf (step keyOf codeOf t op).1 from
    ⟨hS.1, hS.2.1, hS.2.1.keysDistinct hS.2.2, hS.2.2⟩
  have hmem : ∀ x, x ∈ liveRecs t ↔ x ∈ live := fun x => ha.1.mem_iff
  cases op with
  | insert rec ok =>
    by_cases hdup : ∃ x ∈ live, keyOf x = keyOf rec
    · obtain ⟨e1, e2⟩ := insert_exists keyOf codeOf t h rec ok
        (hdup.imp fun x hx => ⟨(hmem x).2 hx.1, hx.2⟩)
      simp only [step, e1, e2]
      exact ⟨Or.inl ⟨hdup, rfl⟩, ha, h⟩
    · have hnew : ∀ x ∈ live, keyOf x ≠ keyOf rec := fun x hx hkx => hdup ⟨x, hx, hkx⟩
      rcases insert_new keyOf codeOf t h rec ok fun x hx => hnew x ((hmem x).1 hx) with
        ⟨s, hi, hm, _⟩ | ⟨hok, s, e⟩
      · simp only [step, s]
        refine ⟨Or.inr ⟨hnew, Or.inl rfl⟩, ?_, hi⟩
        show Abs _ (rec :: live)
        refine abs_of_mem hi (List.nodup_cons.2 ⟨fun hx => hnew rec hx rfl,
          ha.1.nodup (iterate_nodup h)⟩) fun a => ?_
        rw [List.mem_cons, ← hmem a]
        exact (hm a).trans Or.comm
      · simp only [step, s, e]
        exact ⟨Or.inr ⟨hnew, Or.inr ⟨hok, rfl⟩⟩, ha, h⟩
  | find key =>
    cases hf : (find keyOf t key (codeOf key)).1 with
    | none =>
      have habs := (find_none_iff keyOf codeOf t h key).1 hf
      simp only [step, hf]
      exact ⟨Or.inr ⟨fun x hx => habs x ((hmem x).2 hx), rfl⟩, ha, h⟩
    | some i =>
      obtain ⟨r, hr, hkr⟩ := (find_some_iff keyOf codeOf t h key i).1 hf
      simp only [step, hf, recordAt_some_iff.2 ⟨_, hr⟩]
      exact ⟨Or.inl ⟨r, (hmem r).1 (mem_liveRecs.2 ⟨i, _, hr⟩), hkr, rfl⟩, ha, h⟩
  | remove key ok =>
    by_cases hpres : ∃ x ∈ live, keyOf x = key
    · obtain ⟨r0, hr0, hk0⟩ := hpres
      obtain ⟨e, hi, hm, _, hs⟩ := remove_present keyOf codeOf t h key r0 ok ((hmem r0).2 hr0) hk0
      simp only [step, e]
      exact ⟨Or.inl ⟨r0, hr0, hk0, removed_allowed hs⟩, abs_remove ha h hi hm, hi⟩
    · have habs : ∀ x ∈ live, keyOf x ≠ key := fun x hx hkx => hpres ⟨x, hx, hkx⟩
      obtain ⟨e1, e2, e3⟩ :=
        remove_absent keyOf codeOf t h key ok fun x hx => habs x ((hmem x).1 hx)
      simp only [step, e3, e1, e2]
      exact ⟨Or.inr ⟨habs, rfl⟩, ha, h⟩
  | eraseAt i ok =>
    cases hrec : recordAt t i with
    | none =>
      simp only [step, eraseAt_not_record keyOf t i ok hrec]
      exact ⟨Or.inl rfl, ha, h⟩
    | some r0 =>
      obtain ⟨e, hi, hm, _, hs⟩ := eraseAt_record keyOf codeOf t h i r0 ok hrec
      obtain ⟨c, hhold⟩ := recordAt_some_iff.1 hrec
      simp only [step, e]
      exact ⟨Or.inr ⟨r0, (hmem r0).1 (mem_liveRecs.2 ⟨i, c, hhold⟩), removed_allowed hs⟩,
        abs_remove ha h hi hm, hi⟩

theorem run_refines (keyOf codeOf : Nat → Nat) :
    ∀ (ops : List Op) (t : Table) (live : List Nat), Inv keyOf codeOf t → Abs t live →
      StepsAllowed keyOf codeOf t live ops ∧
      ∃ live', Abs (run keyOf codeOf t ops) live' ∧ Inv keyOf codeOf (run keyOf codeOf t ops)
  | [], _, live, h, ha => ⟨trivial, live, ha, h⟩
  | op :: rest, t, live, h, ha => by
    obtain ⟨h1, h2, h3, h4⟩ := step_refines keyOf codeOf t live h ha (ha.keysDistinct h) op
    obtain ⟨r1, r2⟩ := run_refines keyOf codeOf rest _ _ h4 h2
    exact ⟨⟨h1, h2, h3, h4, r1⟩, r2⟩

theorem new_refines (keyOf codeOf : Nat → Nat) (ops : List Op) :
    StepsAllowed keyOf codeOf new [] ops ∧
    ∃ live, Abs (run keyOf codeOf new ops) live ∧ Inv keyOf codeOf (run keyOf codeOf new ops) :=
  run_refines keyOf codeOf ops new [] (inv_new keyOf codeOf) ⟨.refl _, rfl⟩

/-- **Refinement.**  For every key accessor, every hash function, and every history from
`zix_hash_new`, every call returns what the abstract map allows. -/
theorem hash_refines_map (keyOf codeOf : Nat → Nat) (ops : List Op) :
    StepsAllowed keyOf codeOf new [] ops :=
  (new_refines keyOf codeOf ops).1

theorem reachable_inv' (keyOf codeOf : Nat → Nat) (ops : List Op) :
    Inv keyOf codeOf (run keyOf codeOf new ops) :=
  have ⟨_, _, h⟩ := (new_refines keyOf codeOf ops).2
  h

/-- Every reachable table satisfies the invariant; its size field is the number of records iteration
visits and iteration visits no record twice. -/
theorem reachable_inv (keyOf codeOf : Nat → Nat) (ops : List Op) :
    Inv keyOf codeOf (run keyOf codeOf new ops) ∧
    (run keyOf codeOf new ops).count = (iterate (run keyOf codeOf new ops)).length ∧
    (iterate (run keyOf codeOf new ops)).Nodup :=
  have h := reachable_inv' keyOf codeOf ops
  ⟨h, h.countEq, iterate_nodup h⟩

/-- In every reachable table: a find returns a live record with exactly that key if there is one and
nothing otherwise (the pointwise form of "faithful map"). -/
theorem reachable_find (keyOf codeOf : Nat → Nat) (ops : List Op) (key : Nat) :
    let t := run keyOf codeOf new ops
    (∀ r, (step keyOf codeOf t (.find key)).2 = .found r → r ∈ iterate t ∧ keyOf r = key) ∧
    ((step keyOf codeOf t (.find key)).2 = .absent ↔ ∀ r ∈ iterate t, keyOf r ≠ key) := by
  obtain ⟨live, ha, h⟩ := (new_refines keyOf codeOf ops).2
  generalize run keyOf codeOf new ops = t at ha h
  -- what the abstract map allows a find to return, read back through `Abs`
  rcases (step_refines keyOf codeOf t live h ha (ha.keysDistinct h) (.find key)).1 with
    ⟨r, hr, hkr, e⟩ | ⟨habs, e⟩
  · have hrt : r ∈ iterate t := ha.1.mem_iff.2 hr
    refine ⟨fun r' hr' => ?_, fun hab => ?_, fun hall => absurd hkr (hall r hrt)⟩
    · cases e.symm.trans hr'; exact ⟨hrt, hkr⟩
    · cases e.symm.trans hab
  · exact ⟨fun r' hr' => (by cases e.symm.trans hr'), fun _ r hr => habs r (ha.1.mem_iff.1 hr),
      fun _ => e⟩

/-- The outputs of a history, in call order; only the `example`s use it. -/
def outs (keyOf codeOf : Nat → Nat) (t : Table) : List Op → List Out
  | [] => []
  | op :: rest => (step keyOf codeOf t op).2 :: outs keyOf codeOf (step keyOf codeOf t op).1 rest

/-! non-vacuity: a constant hash function, growth, removal with shrink refused -/
example : ((run (fun r => r % 100) (fun _ => 7) new
    [.insert 1 true, .insert 2 true, .insert 101 true, .insert 3 true, .remove 2 false,
      .insert 4 true]).count) = 3 := by decide

/-! non-vacuity for erase at an iterator.  Every code is 7; after the two inserts the table has 8
slots with record 1 in slot 0 and record 2 in slot 7.  Erasing at slot 7 removes record 2 (the
shrink is refused: NO_MEM, but the record is still removed and reported); erasing at the end
iterator (index 8), at the tombstone just made (slot 7), at an empty slot (3) and far out of range
is refused with BAD_ARG and changes nothing; erasing at slot 0 then removes record 1 and shrinks. -/
example : outs (fun r => r) (fun _ => 7) new
    [.insert 1 true, .insert 2 true, .eraseAt 7 false, .eraseAt 8 true, .eraseAt 7 true, .eraseAt 3 true,
      .eraseAt 99 true, .find 1, .find 2, .eraseAt 0 true, .eraseAt 0 true] =
    [.status .success, .status .success, .removed .noMem 2, .status .badArg, .status .badArg, .status .badArg,
      .status .badArg, .found 1, .absent, .removed .success 1, .status .badArg] := by decide

example : (run (fun r => r) (fun _ => 7) new
    [.insert 1 true, .insert 2 true, .eraseAt 7 false, .eraseAt 8 true, .eraseAt 7 true,
      .eraseAt 3 true]).slots =
    [.live 7 1, .empty, .empty, .empty, .empty, .empty, .empty, .tomb] := by decide

example : (run (fun r => r) (fun _ => 7) new
    [.insert 1 true, .insert 2 true, .eraseAt 7 false, .eraseAt 8 true, .eraseAt 7 true,
      .eraseAt 3 true]).count = 1 := by
  decide

/-- the end iterator of the reached table: both components of the step -/
example : (step (fun r => r) (fun _ => 7) ⟨[.live 7 1, .tomb, .live 7 2, .empty], 2⟩ (.eraseAt 4 true)).2 =
      .status .badArg ∧
    (step (fun r => r) (fun _ => 7) ⟨[.live 7 1, .tomb, .live 7 2, .empty], 2⟩ (.eraseAt 4 true)).1.slots =
      [.live 7 1, .tomb, .live 7 2, .empty] ∧
    (step (fun r => r) (fun _ => 7) ⟨[.live 7 1, .tomb, .live 7 2, .empty], 2⟩ (.eraseAt 2 true)).2 =
      .removed .success 2 := by decide

/-- the abstract map allows both outcomes (and only a live record may be reported removed) -/
example : Allowed (fun r => r) [2, 1] (.eraseAt 4 true) (.status .badArg) ∧
    Allowed (fun r => r) [2, 1] (.eraseAt 0 true) (.removed .success 2) ∧
    ¬ Allowed (fun r => r) [2, 1] (.eraseAt 0 true) (.removed .success 5) ∧
    ¬ Allowed (fun r => r) [2, 1] (.eraseAt 0 true) (.removed .noMem 2) := by
  refine ⟨Or.inl rfl, Or.inr ⟨2, by simp, Or.inl rfl⟩, ?_, ?_⟩ <;> simp [Allowed]

end Zix.C03

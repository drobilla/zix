import ZixModel.Properties.C01
import ZixModel.Properties.C01Remove
/-! # C01 — every operation history: the B-tree is a sorted set

The per-operation theorems lifted to every finite history of insert / remove / clear calls from any
well-formed tree: the invariant under an arbitrary allocation-failure oracle, the refinement of the
sorted set under one that never refuses. -/
namespace Zix.C01
open Zix.BTree

theorem step_wf (c : Cfg) (hc : c.Valid) (fails : Nat → Bool) (s : AllocSt × Tree) (op : Op)
    (h : WF c s.2) :
    WF c (stepImpl c fails s op).1.2 := by
  cases op with
  | ins e => exact (insert_refines c hc fails s.1 s.2 e h).1
  | rm e => exact (remove_refines c hc s.2 e h).1
  | clear => exact (clear_destroys_each_once c s.2 h).2.1

/-- The representation invariant holds after every history, whatever the allocator refuses. -/
theorem btree_wf_invariant (c : Cfg) (hc : c.Valid) (fails : Nat → Bool) (ops : List Op) :
    ∀ (s : AllocSt × Tree), WF c s.2 → WF c (runImpl c fails s ops).1.2 := by
  induction ops with
  | nil => intro s h; exact h
  | cons op ops ih =>
    intro s h
    simp only [runImpl]
    exact ih _ (step_wf c hc fails s op h)

theorem step_refines (c : Cfg) (hc : c.Valid) (fails : Nat → Bool) (hok : ∀ k, fails k = false)
    (s : AllocSt × Tree) (op : Op) (h : WF c s.2) :
    (stepImpl c fails s op).2 = (stepSpec s.2.root.elems op).2 ∧
      (stepImpl c fails s op).1.2.root.elems = (stepSpec s.2.root.elems op).1 := by
  cases op with
  | ins e =>
    have hr := insert_refines c hc fails s.1 s.2 e h
    have hi := insert_success_iff_absent c hc fails s.1 s.2 e h hok
    simp only [stepImpl, stepSpec]
    by_cases hm : e ∈ s.2.root.elems
    · have hst := hi.2.mpr hm
      simp only [hm, if_true]
      exact ⟨hst, (hr.2.2.1 hst).2.1⟩
    · have hst := hi.1.mpr hm
      simp only [hm, if_false]
      exact ⟨hst, (hr.2.1 hst).2.1⟩
  | rm e =>
    have hr := remove_refines c hc s.2 e h
    simp only [stepImpl, stepSpec]
    by_cases hm : e ∈ s.2.root.elems
    · simp only [hm, if_true]
      exact ⟨(hr.2.1 hm).1, (hr.2.1 hm).2.2.1⟩
    · simp only [hm, if_false]
      exact ⟨(hr.2.2 hm).1, (hr.2.2 hm).2.2.2.1⟩
  | clear => exact ⟨rfl, (clear_destroys_each_once c s.2 h).2.2⟩

/-- With memory available, every call of every history returns the status the sorted set returns,
and the tree's in-order contents are the set's elements (strictly ascending), with the size equal
to its cardinality. -/
theorem btree_refines_sorted_set (c : Cfg) (hc : c.Valid) (fails : Nat → Bool) (hok : ∀ k, fails k = false)
    (ops : List Op) :
    ∀ (s : AllocSt × Tree), WF c s.2 →
      (runImpl c fails s ops).2 = (runSpec s.2.root.elems ops).2 ∧
      (runImpl c fails s ops).1.2.root.elems = (runSpec s.2.root.elems ops).1 ∧
      (runImpl c fails s ops).1.2.size = (runSpec s.2.root.elems ops).1.length := by
  induction ops with
  | nil => intro s h; exact ⟨rfl, rfl, h.size⟩
  | cons op ops ih =>
    intro s h
    have hstep := step_refines c hc fails hok s op h
    have hrec := ih (stepImpl c fails s op).1 (step_wf c hc fails s op h)
    simp only [runImpl, runSpec]
    rw [hstep.2] at hrec
    exact ⟨by rw [hstep.1, hrec.1], hrec.2.1, hrec.2.2⟩

/-- Contents stay strictly ascending in every reachable state (so begin..end iteration is in
strictly ascending order: see `increment_walks_inorder` in C02). -/
theorem btree_sorted_always (c : Cfg) (hc : c.Valid) (fails : Nat → Bool) (ops : List Op)
    (s : AllocSt × Tree) (h : WF c s.2) :
    (runImpl c fails s ops).1.2.root.elems.Pairwise (· < ·) :=
  (btree_wf_invariant c hc fails ops s h).sorted

/-- No element is deeper than `maxHeight` levels in any reachable state holding fewer elements than
the minimum a tree of height `maxHeight + 1` needs. -/
theorem btree_depth_le_maxHeight_always (c : Cfg) (hc : c.Valid) (fails : Nat → Bool) (ops : List Op)
    (s : AllocSt × Tree) (h : WF c s.2)
    (hs : (runImpl c fails s ops).1.2.size < c.minElems (c.maxHeight + 1)) :
    height (runImpl c fails s ops).1.2.root ≤ c.maxHeight :=
  btree_depth_le_maxHeight c hc _ (btree_wf_invariant c hc fails ops s h) hs

end Zix.C01

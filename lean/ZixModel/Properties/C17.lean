import ZixModel.Model.Sem
import ZixModel.Lemmas.Errno
/-! # C17 — semaphore counts correctly and honours its timeout

The kernel's semaphore, clock and signal delivery are *modelled* (oracle of call results; abstract
counter), not verified.  The errno clauses of the property are in `Lemmas/Errno.lean`. -/
namespace Zix.C17
open Zix.Sem Zix.Errno Zix.Generated

theorem normalize_spec (fuel : Nat) (ts : Timespec) (h0 : 0 ≤ ts.nsec)
    (hf : ts.nsec < (fuel + 1) * NS) :
    0 ≤ (normalize fuel ts).nsec ∧ (normalize fuel ts).nsec < NS ∧
    (normalize fuel ts).sec * NS + (normalize fuel ts).nsec = ts.sec * NS + ts.nsec := by
  fun_induction normalize fuel ts with
  | case1 => unfold NS at *; omega
  | case2 fuel ts hge ih =>
    have := ih
      (by
        simp only
        unfold NS at *
        omega)
      (by
        simp only
        unfold NS at *
        omega)
    simp only at this
    unfold NS at *; omega
  | case3 => unfold NS at *; omega

/-- The deadline is exactly now + seconds + nanoseconds, normalised, for all 2^64 argument pairs. -/
theorem deadline_exact_normalised (now : Timespec) (hn0 : 0 ≤ now.nsec) (hn : now.nsec < NS)
    (seconds nanoseconds : Nat) (hns : nanoseconds < 2 ^ 32) :
    0 ≤ (deadline now seconds nanoseconds).nsec ∧ (deadline now seconds nanoseconds).nsec < NS ∧
    (deadline now seconds nanoseconds).sec * NS + (deadline now seconds nanoseconds).nsec
      = now.sec * NS + now.nsec + seconds * NS + nanoseconds := by
  have := normalize_spec 6 ⟨now.sec + seconds, now.nsec + nanoseconds⟩
    (by simp only; omega)
    (by
      simp only
      unfold NS at *
      omega)
  simp only at this
  unfold deadline
  unfold NS at *
  omega

/-- The errno numerals in the statements of this file are this platform's values of the names
(regenerated with the errno table). -/
theorem errno_names_ok : errnoOf "EAGAIN" = some 11 ∧ errnoOf "EWOULDBLOCK" = some 11 ∧
    errnoOf "ETIMEDOUT" = some 110 ∧ errnoOf "EINTR" = some EINTR := by decide

theorem retry_eintr (rest : List SysRes) (n : Nat) :
    retry (.err EINTR :: rest) n = retry rest (n + 1) :=
  if_pos rfl

theorem retry_of_ne {r : SysRes} (hr : r ≠ .err EINTR) (rest : List SysRes) (n : Nat) :
    retry (r :: rest) n = some (once r, n + 1) := by
  cases r with
  | ok => rfl
  | err e => exact if_neg fun h => hr (congrArg _ h)

/-- `zix_sem_post`, `zix_sem_init` and `zix_sem_destroy` make one kernel call each and report
SUCCESS exactly when it returned 0 — whatever errno held before — and otherwise the status of the
errno the call set (EOVERFLOW of a post at the maximum count is an error, never SUCCESS).  `hl`: the
failing call did set one; row (0, 0) of `errnoMap` turns a failure that leaves errno 0 into
SUCCESS. -/
theorem once_success_iff (r : SysRes) (hl : ∀ e, r = .err e → e ≠ 0) : once r = 0 ↔ r = .ok := by
  cases r with
  | ok => exact ⟨fun _ => rfl, fun _ => rfl⟩
  | err e => exact ⟨fun h => absurd h (errnoStatus_ne_zero (hl e rfl)), nofun⟩

theorem once_eq_iff {s k : Int} (hs : s ≠ 0) (h : ∀ e, errnoStatus e = s ↔ e = k) (r : SysRes) :
    once r = s ↔ r = .err k := by
  cases r with
  | ok => exact ⟨fun h0 => absurd h0.symm hs, nofun⟩
  | err e => exact (h e).trans ⟨congrArg _, SysRes.err.inj⟩

/-- A wait interrupted by signals any number of times resumes: the result is that of the first
call that is not EINTR, after exactly k+1 kernel calls. -/
theorem wait_resumes_after_eintr (k : Nat) (r : SysRes) (hr : r ≠ .err EINTR) (rest : List SysRes) (n : Nat) :
    retry (List.replicate k (.err EINTR) ++ r :: rest) n =
      some ((match r with | .ok => 0 | .err e => errnoStatus e), n + k + 1) := by
  induction k generalizing n with
  | zero => rw [List.replicate_zero, List.nil_append, retry_of_ne hr]; cases r <;> rfl
  | succ k ih =>
    rw [List.replicate_succ, List.cons_append, retry_eintr, ih, Nat.add_right_comm n 1 k]; rfl

/-- EINTR is always retried: a wait that returns has been given some number k of EINTR results
and then a result that is not EINTR, and has made exactly k+1 kernel calls. -/
theorem wait_never_reports_eintr (oracle : List SysRes) (n : Nat) :
    ∀ res, retry oracle n = some res →
      ∃ k r rest, oracle = List.replicate k (.err EINTR) ++ r :: rest ∧ r ≠ .err EINTR ∧ res.2 = n + k + 1 := by
  induction oracle generalizing n with
  | nil => nofun
  | cons x xs ih =>
    intro res h
    by_cases hx : x = .err EINTR
    · rw [hx, retry_eintr] at h
      obtain ⟨k, r, rest, h1, h2, h3⟩ := ih (n + 1) res h
      exact ⟨k + 1, r, rest, by rw [hx, h1, List.replicate_succ, List.cons_append], h2, by omega⟩
    · rw [retry_of_ne hx, Option.some.injEq] at h
      exact ⟨0, x, xs, rfl, hx, by rw [← h]⟩

/-- `zix_sem_try_wait` reports UNAVAILABLE exactly when the (non-blocking) kernel call failed with
EAGAIN, i.e. when the count was zero; it reports SUCCESS exactly when the call succeeded (`hr0`: see
`once_success_iff`). -/
theorem try_wait_status (r : SysRes) (rest : List SysRes) (hr : r ≠ .err EINTR) (hr0 : r ≠ .err 0) :
    (semTryWait (r :: rest) = some (11, 1) ↔ r = .err 11) ∧
    (semTryWait (r :: rest) = some (0, 1) ↔ r = .ok) := by
  simp only [semTryWait, retry_of_ne hr, Option.some.injEq, Prod.mk.injEq, and_true]
  exact ⟨once_eq_iff (by decide) errno_unavailable_iff r,
    once_success_iff r fun e he h => hr0 (h ▸ he)⟩

/-- `zix_sem_timed_wait` with a working clock: SUCCESS iff a unit was obtained, TIMEOUT iff the
kernel reported ETIMEDOUT against exactly the computed deadline; one kernel call when no signal
arrives (`hr0`: see `once_success_iff`). -/
theorem timed_wait_status (now : Timespec) (sec nsec : Nat) (r : SysRes) (rest : List SysRes)
    (hr : r ≠ .err EINTR) (hr0 : r ≠ .err 0) :
    ∃ st, semTimedWait .ok now sec nsec (r :: rest) = some (st, 1, some (deadline now sec nsec)) ∧
      (st = 0 ↔ r = .ok) ∧ (st = 8 ↔ r = .err 110) :=
  ⟨once r, by simp only [semTimedWait, retry_of_ne hr],
    once_success_iff r fun e he h => hr0 (h ▸ he), once_eq_iff (by decide) errno_timeout_iff r⟩

/-- Signals during a timed wait do not change the deadline or the outcome. -/
theorem timed_wait_resumes (now : Timespec) (sec nsec k : Nat) (r : SysRes) (rest : List SysRes)
    (hr : r ≠ .err EINTR) :
    semTimedWait .ok now sec nsec (List.replicate k (.err EINTR) ++ r :: rest) =
      some ((match r with | .ok => 0 | .err e => errnoStatus e), k + 1, some (deadline now sec nsec)) := by
  simp only [semTimedWait, wait_resumes_after_eintr k r hr rest 0, Nat.zero_add]

-- the abstract counter: an event list is any interleaving of any number of posters and waiters

def runCounter (c : Counter) (es : List Ev) : Counter := es.foldl Counter.step c

/-- Units are conserved: those handed out and those still in the kernel are the `n` at the start
plus the posts that reached the kernel (`init` is never written, so it plays no part). -/
def CInv (n : Nat) (c : Counter) : Prop :=
  c.succeeded + c.count = n + c.committed ∧ c.committed ≤ c.begun

theorem cinv_step (n : Nat) (c : Counter) (e : Ev) (h : CInv n c) : CInv n (c.step e) := by
  obtain ⟨h1, h2⟩ := h
  fun_cases Counter.step c e with
  | case1 => exact ⟨h1, Nat.le_succ_of_le h2⟩
  | case2 hen =>
    have : c.committed < c.begun := of_decide_eq_true hen
    exact ⟨show c.succeeded + (c.count + 1) = n + (c.committed + 1) by omega, this⟩
  | case3 hen =>
    have : 0 < c.count := of_decide_eq_true hen
    exact ⟨show c.succeeded + 1 + (c.count - 1) = n + c.committed by omega, h2⟩
  | case4 => exact ⟨h1, h2⟩

/-- Conservation: on every interleaving, successful waits never exceed the initial value plus the
posts begun. -/
theorem sem_conservation (n : Nat) (es : List Ev) :
    (runCounter (Counter.start n) es).succeeded ≤ n + (runCounter (Counter.start n) es).begun := by
  obtain ⟨h1, h2⟩ : CInv n (runCounter (Counter.start n) es) :=
    List.foldlRecOn es Counter.step (motive := CInv n) ⟨Nat.add_comm 0 n, Nat.le_refl 0⟩
      fun c hc e _ => cinv_step n c e hc
  omega

/-- No lost wake-up: whenever the count is positive a wait can succeed, and every committed post
leaves the count positive. -/
theorem sem_no_lost_wakeup (c : Counter) :
    (0 < c.count → c.enabled .waitOk = true) ∧
    (c.enabled .postCommit = true → 0 < (c.step .postCommit).count ∧ (c.step .postCommit).enabled .waitOk = true) := by
  constructor
  · intro h; simp [Counter.enabled, h]
  · intro h
    have hs :
        c.step .postCommit = { c with committed := c.committed + 1, count := c.count + 1 } := by
      unfold Counter.step
      rw [if_pos h]
    rw [hs]
    simp [Counter.enabled]

-- nanoseconds ≥ 10^9 with a carry chain: now = (5 s, 999999999 ns), wait (0 s, 4294967295 ns)
example : deadline ⟨5, 999999999⟩ 0 4294967295 = ⟨10, 294967294⟩ := by decide
example : semWait [.err 4, .err 4, .ok] = some (0, 3) := by decide
example : semTryWait [.err 11] = some (11, 1) := by decide

example :
    (runCounter (Counter.start 1)
      [.waitOk, .waitOk, .postBegin, .postCommit, .waitOk]).succeeded = 2 := by decide

example : once (.err 75) ≠ 0 := by decide      -- EOVERFLOW
example : semInitArgs 3 = (0, 3) := rfl

end Zix.C17

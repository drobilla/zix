import ZixModel.Lemmas.BTreeRemove
import ZixModel.Properties.C01History
/-! # C08 — all memory goes through the caller's allocator and is released exactly once (B-tree)

Every page of the B-tree model carries the id of its memory block; every operation returns the
allocator events it caused (`Ev.alloc id`, `Ev.allocFail`, `Ev.free id`), and the correspondence
harness compares these events, with ids, against the implementation's tracking allocator after
every call.  The theorems say that over every history the events are a disciplined use of the
allocator: a block is only released if it is live, never twice, and the live blocks are exactly the
pages of the tree — so that after `free` nothing is outstanding. -/
namespace Zix.C08
open Zix.BTree

/-- A granted page gets the next unused block id and the request counter always advances. -/
theorem alloc_page_fresh (fails : Nat → Bool) (a : AllocSt) :
    (allocPage fails a).1.reqs = a.reqs + 1 ∧
    (∀ id, (allocPage fails a).2.1 = some id →
      id = a.next ∧ (allocPage fails a).1.next = a.next + 1 ∧
      (allocPage fails a).2.2 = [.alloc id]) ∧
    ((allocPage fails a).2.1 = none →
      (allocPage fails a).1.next = a.next ∧ (allocPage fails a).2.2 = [.allocFail]) := by
  unfold allocPage
  split <;> simp

/-- A new tree owns exactly the two blocks it was granted; a failed construction owns nothing. -/
theorem new_pages_accounted (fails : Nat → Bool) (a : AllocSt) :
    match (Tree.new fails a).2.1 with
    | some t =>
      ∃ live, applyEvs [] (Tree.new fails a).2.2 = some live ∧ live.Perm (Tree.pages t) ∧
        PagesOK (Tree.new fails a).1 t
    | none => applyEvs [] (Tree.new fails a).2.2 = some [] := by
  unfold Tree.new allocPage
  by_cases h1 : fails a.reqs = true
  · simp [h1, applyEvs]
  · by_cases h2 : fails (a.reqs + 1) = true
    · simp [h1, h2, applyEvs]
    · simp only [h1, h2, Bool.false_eq_true, if_false]
      refine ⟨[a.next + 1, a.next], by simp [applyEvs], ?_, ?_, ?_⟩
      · simp only [Tree.pages, pagesOf]
        exact List.Perm.swap _ _ _
      · simp [Tree.pages, pagesOf]
      · intro id hid
        simp [Tree.pages, pagesOf] at hid
        show id < a.next + 1 + 1
        omega

/-- Every single call uses the allocator correctly whatever it refuses: starting from the tree's
own blocks, replaying the call's events never releases a dead or foreign block, never grants a live
id, and ends with exactly the blocks of the resulting tree. -/
theorem step_pages_accounted (c : Cfg) (hc : c.Valid) (fails : Nat → Bool) (s : AllocSt × Tree) (op : Zix.C01.Op)
    (h : WF c s.2) (hp : PagesOK s.1 s.2) :
    ∃ live, applyEvs (Tree.pages s.2) (stepEv c fails s op).2 = some live ∧
      live.Perm (Tree.pages (stepEv c fails s op).1.2) ∧
      PagesOK (stepEv c fails s op).1.1 (stepEv c fails s op).1.2 := by
  cases op with
  | ins e =>
    obtain ⟨-, -, -, hpages⟩ := Ins.tree_insert_spec c hc fails s.1 s.2 e h _ rfl
    exact hpages hp
  | rm e => exact Rem.remove_pages c hc s.1 s.2 e h hp
  | clear => exact clear_pages c s.1 s.2 h hp

theorem stepEv_state (c : Cfg) (fails : Nat → Bool) (s : AllocSt × Tree) (op : Zix.C01.Op) :
    (stepEv c fails s op).1 = (Zix.C01.stepImpl c fails s op).1 := by
  cases op <;> rfl

/-- Every history uses the allocator correctly: replaying all its events from (any arrangement of)
the tree's blocks succeeds and ends with exactly the blocks of the final tree, which is well formed
and owns distinct granted blocks. -/
theorem history_pages_accounted (c : Cfg) (hc : c.Valid) (fails : Nat → Bool) (ops : List Zix.C01.Op) :
    ∀ (s : AllocSt × Tree) (live : List Nat), WF c s.2 → PagesOK s.1 s.2 → live.Perm (Tree.pages s.2) →
      ∃ live', applyEvs live (runEv c fails s ops).2 = some live' ∧
        live'.Perm (Tree.pages (runEv c fails s ops).1.2) ∧
        WF c (runEv c fails s ops).1.2 ∧ PagesOK (runEv c fails s ops).1.1 (runEv c fails s ops).1.2 := by
  induction ops with
  | nil => intro s live h hp hl; exact ⟨live, rfl, hl, h, hp⟩
  | cons op ops ih =>
    intro s live h hp hl
    obtain ⟨l1, a1, a2, a3⟩ := step_pages_accounted c hc fails s op h hp
    obtain ⟨l1', b1, b2⟩ := Pg.replay_of_perm hl ⟨l1, a1, a2⟩
    obtain ⟨l2, d1, d2, d3, d4⟩ := ih (stepEv c fails s op).1 l1'
      (stepEv_state c fails s op ▸ Zix.C01.step_wf c hc fails s op h) a3 b2
    refine ⟨l2, ?_, d2, d3, d4⟩
    show applyEvs live ((stepEv c fails s op).2 ++ (runEv c fails (stepEv c fails s op).1 ops).2) =
      some l2
    rw [Pg.replay_append_some _ b1]
    exact d1

/-- Whole life cycle: construction, any history under any allocation oracle, then `free`: every
block granted is released exactly once and nothing remains outstanding. -/
theorem lifecycle_balanced (c : Cfg) (hc : c.Valid) (fails : Nat → Bool) (a : AllocSt) (t : Tree)
    (hnew : (Tree.new fails a).2.1 = some t) (ops : List Zix.C01.Op) :
    let s0 := ((Tree.new fails a).1, t)
    let r := runEv c fails s0 ops
    applyEvs [] ((Tree.new fails a).2.2 ++ r.2 ++ freeEvents r.1.2) = some [] := by
  intro s0 r
  have hn := new_pages_accounted fails a
  rw [hnew] at hn
  obtain ⟨l0, n1, n2, n3⟩ := hn
  have hwf : WF c t :=
    (Zix.C01.wf_new c fails a (Tree.new fails a).1 t (Tree.new fails a).2.2 (by rw [← hnew])).1
  obtain ⟨l1, r1, r2, r3, r4⟩ := history_pages_accounted c hc fails ops s0 l0 hwf n3 n2
  obtain ⟨l2, c1, c2, _⟩ := clear_pages c r.1.1 r.1.2 r3 r4
  obtain ⟨l2', e1, e2⟩ := Pg.replay_of_perm r2 ⟨l2, c1, c2⟩
  obtain ⟨l3, f1, f2⟩ := Pg.replay_frees [.free r.1.2.root.id, .free r.1.2.treeId]
    (by simp) l2' [] (e2.trans (List.Perm.swap _ _ _))
  have hl3 : l3 = [] := List.Perm.eq_nil f2
  subst hl3
  unfold freeEvents
  rw [List.append_assoc, Pg.replay_append_some _ n1, Pg.replay_append_some _ r1,
    Pg.replay_append_some _ e1]
  exact f1

end Zix.C08

import ZixModel.Spec.HashAlloc
import ZixModel.Lemmas.Hash
import ZixModel.Lemmas.AllocLog
/-! # C08 for ZixHash: every block obtained from the caller's allocator is released exactly once

Over EVERY history of insert / find / remove / erase-at-any-iterator with any pattern of allocation
failures, followed by `zix_hash_free`.

No lemma of `Lemmas/Hash.lean` is used.  It is imported because `fun_cases insertAt` is used there
too: the case principle is generated where it is first asked for, and two modules that each
generate it cannot be imported together. -/
namespace Zix.C08Hash
open Zix.Hash Zix.C03

section
open Zix.AllocLog

theorem allocs_nil : allocs [] = [] := rfl

theorem allocs_alloc (b : Nat) (es : List AEv) : allocs (.alloc b :: es) = b :: allocs es := rfl

theorem allocs_refused (es : List AEv) : allocs (.refused :: es) = allocs es := rfl

theorem allocs_free (b : Nat) (es : List AEv) : allocs (.free b :: es) = allocs es := rfl

theorem frees_nil : frees [] = [] := rfl

theorem frees_alloc (b : Nat) (es : List AEv) : frees (.alloc b :: es) = frees es := rfl

theorem frees_refused (es : List AEv) : frees (.refused :: es) = frees es := rfl

theorem frees_free (b : Nat) (es : List AEv) : frees (.free b :: es) = b :: frees es := rfl

theorem allocs_append (a b : List AEv) : allocs (a ++ b) = allocs a ++ allocs b :=
  List.filterMap_append

theorem frees_append (a b : List AEv) : frees (a ++ b) = frees a ++ frees b :=
  List.filterMap_append

/-- The events read as the `Act`s of `Lemmas/AllocLog.lean`, where the theory of well-formed logs
is. -/
def act : AEv → Act
  | .alloc b => .alloc b
  | .refused => .refused
  | .free b => .free b

theorem allocs_eq (es : List AEv) : allocs es = AllocLog.allocs (es.map act) := by
  rw [AllocLog.allocs, List.filterMap_map]
  exact congrArg (List.filterMap · es) (funext fun e => by cases e <;> rfl)

theorem frees_eq (es : List AEv) : frees es = AllocLog.frees (es.map act) := by
  rw [AllocLog.frees, List.filterMap_map]
  exact congrArg (List.filterMap · es) (funext fun e => by cases e <;> rfl)

/-- A sane ghost allocator state: the current array is not the header and was granted already. -/
def Blocks.Sane (b : Blocks) : Prop := 1 < b.cur ∧ b.cur < b.next

theorem call_log (b : Blocks) (r z : Bool) (hb : b.Sane) :
    (callEvents b r z).1.Sane ∧
      Log [1, b.cur] b.next ((callEvents b r z).2.map act) [1, (callEvents b r z).1.cur]
        (callEvents b r z).1.next := by
  obtain ⟨h1, h2⟩ := hb
  fun_cases callEvents b r z
  · exact ⟨⟨h1, h2⟩, .refl _, rfl⟩
  · refine ⟨⟨Nat.lt_trans h1 h2, Nat.lt_succ_self _⟩, rfl, by simp, ?_, rfl⟩
    have e1 : b.next ≠ b.cur := Nat.ne_of_gt h2
    have e2 : 1 ≠ b.cur := Nat.ne_of_lt h1
    simp [e1, e2, List.Perm.swap]
  · exact ⟨⟨h1, h2⟩, .refl _, rfl⟩

theorem run_log (keyOf codeOf : Nat → Nat) (ops : List Op) : ∀ (t : Table) (b : Blocks), b.Sane →
    (runEvents keyOf codeOf t b ops).2.1.Sane ∧
      Log [1, b.cur] b.next ((runEvents keyOf codeOf t b ops).2.2.map act)
        [1, (runEvents keyOf codeOf t b ops).2.1.cur]
        (runEvents keyOf codeOf t b ops).2.1.next := by
  intro t b hb
  fun_induction runEvents keyOf codeOf t b ops with
  | case1 => exact ⟨hb, .refl _, rfl⟩
  | case2 t b op rest r e r2 ih =>
    obtain ⟨hb', hl⟩ := call_log b (isRefused r.2) (decide (r.1.n ≠ t.n)) hb
    obtain ⟨hb'', hl'⟩ := ih hb'
    rw [List.map_append]
    exact ⟨hb'', hl.append hl'⟩

theorem alive_log (keyOf codeOf : Nat → Nat) (ops : List Op) :
    (runEvents keyOf codeOf new Blocks.start ops).2.1.Sane ∧
      Log [] 1 ((newEvents ++ (runEvents keyOf codeOf new Blocks.start ops).2.2).map act)
        [1, (runEvents keyOf codeOf new Blocks.start ops).2.1.cur]
        (runEvents keyOf codeOf new Blocks.start ops).2.1.next := by
  obtain ⟨hb, hl⟩ := run_log keyOf codeOf ops new Blocks.start ⟨by decide, by decide⟩
  rw [List.map_append]
  exact ⟨hb, Log.append (M := [1, 2]) (m := 3) ⟨rfl, rfl, List.Perm.swap _ _ _, rfl⟩ hl⟩

theorem lifecycle_log (keyOf codeOf : Nat → Nat) (ops : List Op) :
    Log [] 1 ((lifecycle keyOf codeOf ops).map act) []
      (runEvents keyOf codeOf new Blocks.start ops).2.1.next := by
  obtain ⟨hb, hl⟩ := alive_log keyOf codeOf ops
  show Log _ _ ((newEvents ++ _ ++ freeEvents _).map act) _ _
  rw [List.map_append]
  have e : [1, (runEvents keyOf codeOf new Blocks.start ops).2.1.cur].erase
      (runEvents keyOf codeOf new Blocks.start ops).2.1.cur = [1] := by
    simp [Nat.ne_of_lt hb.1]
  exact hl.append ⟨by simp, by rw [e]; exact ⟨List.mem_cons_self, by simp, rfl⟩⟩

/-! A call that does not report success leaves the entry array at its size: an insert leaves the
whole table as it was, a removal may still have made its tombstone. -/

theorem insertAt_atomic (keyOf : Nat → Nat) (t : Table) (index code rec : Nat) (ok : Bool)
    (evs : List Ev) :
    (insertAt keyOf t index code rec ok evs).1 = t ∨
      (insertAt keyOf t index code rec ok evs).2.1 = .success := by
  fun_cases insertAt keyOf t index code rec ok evs
  · exact Or.inl rfl
  · exact Or.inr rfl
  · exact Or.inl rfl
  · exact Or.inr rfl

theorem insert_atomic (keyOf : Nat → Nat) (t : Table) (rec code : Nat) (ok : Bool) :
    (insert keyOf t rec code ok).1 = t ∨ (insert keyOf t rec code ok).2.1 = .success := by
  fun_cases insert keyOf t rec code ok
  · exact insertAt_atomic keyOf t _ code rec ok _
  · exact Or.inl rfl

theorem erase_size (keyOf : Nat → Nat) (t : Table) (i : Nat) (ok : Bool) :
    (erase keyOf t i ok).1.n = t.n ∨ (erase keyOf t i ok).2.1 = .success := by
  fun_cases erase keyOf t i ok
  · exact Or.inr rfl
  · exact Or.inl List.length_set
  · exact Or.inr rfl

theorem remove_size (keyOf : Nat → Nat) (t : Table) (key code : Nat) (ok : Bool) :
    (remove keyOf t key code ok).1.n = t.n ∨ (remove keyOf t key code ok).2.1 = .success := by
  fun_cases remove keyOf t key code ok with
  | case1 i evs hf t' st r evs2 he => have := erase_size keyOf t i ok; rwa [he] at this
  | case2 => exact Or.inl rfl

theorem eraseAt_size (keyOf : Nat → Nat) (t : Table) (i : Nat) (ok : Bool) :
    (eraseAt keyOf t i ok).1.n = t.n ∨ (eraseAt keyOf t i ok).2.1 = .success := by
  fun_cases eraseAt keyOf t i ok
  · exact Or.inl rfl
  · exact erase_size keyOf t i ok

/-- `remove` and `eraseAt` report through the same wrapper in `step`: the table is passed on, and
the output counts as refused only if the status is NO_MEM. -/
theorem removal_step (r : Table × Status × Option Nat × List Ev) (t : Table)
    (hn : r.1.n = t.n ∨ r.2.1 = .success)
    (hr : isRefused (match r.2.2.1 with
      | some rec => (r.1, Out.removed r.2.1 rec)
      | none => (r.1, Out.status r.2.1)).2 = true) :
    (match r.2.2.1 with
      | some rec => (r.1, Out.removed r.2.1 rec)
      | none => (r.1, Out.status r.2.1)).1.n = t.n := by
  obtain ⟨t', s, o, evs⟩ := r
  cases o <;> exact hn.resolve_right fun hs => by cases hs; cases hr

end

/-- Exactly once: no block is obtained twice and the released blocks are exactly the obtained
ones. -/
theorem hash_lifecycle_balanced (keyOf codeOf : Nat → Nat) (ops : List Op) :
    (allocs (lifecycle keyOf codeOf ops)).Nodup ∧
    (frees (lifecycle keyOf codeOf ops)).Perm (allocs (lifecycle keyOf codeOf ops)) := by
  rw [allocs_eq, frees_eq]
  exact (lifecycle_log keyOf codeOf ops).exactly_once

/-- Order: a block is released only after it was obtained and not yet released. -/
theorem hash_free_after_alloc (keyOf codeOf : Nat → Nat) (ops : List Op) (pre post : List AEv) (b : Nat)
    (h : lifecycle keyOf codeOf ops = pre ++ AEv.free b :: post) : b ∈ allocs pre ∧ b ∉ frees pre := by
  have hl := lifecycle_log keyOf codeOf ops
  rw [h, List.map_append] at hl
  rw [allocs_eq, frees_eq]
  exact hl.free_after_alloc

/-- While the table is alive exactly two blocks are outstanding: the header and the current
array. -/
theorem hash_outstanding (keyOf codeOf : Nat → Nat) (ops : List Op) :
    let r := runEvents keyOf codeOf new Blocks.start ops
    (frees r.2.2 ++ [1, r.2.1.cur]).Perm (allocs (newEvents ++ r.2.2)) := by
  intro r
  have h := (alive_log keyOf codeOf ops).2.balance
  rwa [← allocs_eq, ← frees_eq] at h

/-- A call that reports NO_MEM leaves the entry array (its size and the block holding it) as it was;
for an insert the whole table is unchanged. -/
theorem hash_refused_keeps_array (keyOf codeOf : Nat → Nat) (t : Table) (h : Inv keyOf codeOf t) (op : Op)
    (hr : isRefused (step keyOf codeOf t op).2 = true) : (step keyOf codeOf t op).1.n = t.n := by
  have _ := h   -- not needed: no case uses the invariant
  cases op with
  | insert rec ok =>
    exact congrArg Table.n
      ((insert_atomic keyOf t rec _ ok).resolve_right fun hs => by rw [step, hs] at hr; cases hr)
  | find key =>
    have : (step keyOf codeOf t (.find key)).1 = t := by
      simp only [step]
      split
      · split <;> rfl
      · rfl
    rw [this]
  | remove key ok => exact removal_step _ t (remove_size keyOf t key _ ok) hr
  | eraseAt i ok => exact removal_step _ t (eraseAt_size keyOf t i ok) hr

example : lifecycle (fun r => r) (fun _ => 7)
    [.insert 1 true, .insert 2 true, .insert 3 true, .insert 4 false, .insert 4 true,
      .insert 5 true, .remove 1 true, .remove 2 false, .remove 3 true, .remove 4 true] =
    [.alloc 1, .alloc 2, .alloc 3, .free 2, .alloc 4, .free 3, .refused, .alloc 5, .free 4,
      .alloc 6, .free 5, .free 6, .free 1] := by decide

/-! erase at an iterator: a refused position (end iterator, BAD_ARG) touches no block; erasing a
record may be refused its shrink (NO_MEM) or shrink (obtain the new array, release the old). -/
example : lifecycle (fun r => r) (fun _ => 7)
    [.insert 1 true, .insert 2 true, .eraseAt 8 true, .eraseAt 7 false, .eraseAt 7 true,
      .eraseAt 0 true] =
    [.alloc 1, .alloc 2, .alloc 3, .free 2, .refused, .alloc 4, .free 3, .free 4, .free 1] := by
  decide

end Zix.C08Hash

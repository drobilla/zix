import ZixModel.Model.FsLink
import ZixModel.Spec.OsLaws
import ZixModel.Lemmas.MkdirsWalk
/-! # C15, create_directories: for every operating system obeying `OsLaws`

The create_directories clauses are proved for `createDirectoriesG`, the walk of src/filesystem.c
written against abstract `stat`/`mkdir` calls, for EVERY state type and EVERY pair of calls
satisfying `OsLaws` — whatever path resolution does (symbolic links, mount points, case folding, …).
The walk is examined once, in the form with an environment (`createDirectoriesE`, other processes
acting between test and `mkdir`); `createDirectoriesG` is the case of an environment that does
nothing. -/
namespace Zix.C15Link
open Zix.Path Zix.FsLink Zix.MkdirsWalk

/-- When the others win the race for a prefix (it was no directory at the walk's test and is one
after `env`), the `mkdir` that then fails says EEXIST.  Holds of every `mkdir` when `env` does
nothing: no race is lost. -/
def RaceEexist {σ : Type} (inv : σ → Prop) (isDir : σ → List Nat → Bool)
    (mkdir : σ → List Nat → σ × Option Int) (env : Nat → List Nat → σ → σ) : Prop :=
  ∀ k p t t' e, inv t → isDir t p = false → isDir (env k p t) p = true →
    mkdir (env k p t) p = (t', some e) → Zix.Errno.errnoStatus e = 4

variable {σ : Type} {inv : σ → Prop} {isDir : σ → List Nat → Bool}
  {mkdir : σ → List Nat → σ × Option Int}

section
variable {env : Nat → List Nat → σ → σ}
open Zix.C15Race (EnvLaws)

theorem RaceEexist.quiet : RaceEexist inv isDir mkdir (fun _ _ t => t) :=
  fun _ _ _ _ _ _ h h' => absurd (h.symm.trans h') (by simp)

theorem quiet_laws : EnvLaws inv isDir (fun _ _ t => t) :=
  ⟨fun _ _ _ h => h, fun _ _ _ _ _ h => h⟩

/-- The walk over the prefixes `fr` of `s`, started in `t`, has ended in `out`.  `fail` keeps
`RaceEexist` as an antecedent, so `goE_main` needs no assumption about races: whoever has one
applies it. -/
structure WalkEnd (inv : σ → Prop) (isDir : σ → List Nat → Bool)
    (mkdir : σ → List Nat → σ × Option Int) (env : Nat → List Nat → σ → σ) (s : List Nat)
    (fr : List PathIter) (t : σ) (out : σ × Int) : Prop where
  wf : inv out.1
  stay : ∀ q, isDir t q = true → isDir out.1 q = true
  success : out.2 = 0 → ∀ f ∈ fr, isDir out.1 (s.take f.range.2) = true
  fail : out.2 ≠ 0 → RaceEexist inv isDir mkdir env →
    ∃ f ∈ fr, isDir out.1 (s.take f.range.2) = false

theorem WalkEnd.nil {s : List Nat} {t : σ} (ht : inv t) :
    WalkEnd inv isDir mkdir env s [] t (t, 0) :=
  ⟨ht, fun _ h => h, fun _ _ hf => (nomatch hf), fun h => absurd rfl h⟩

theorem WalkEnd.cons {s : List Nat} {f : PathIter} {rest : List PathIter} {t t' : σ}
    {out : σ × Int} (hst : ∀ q, isDir t q = true → isDir t' q = true)
    (hf : isDir t' (s.take f.range.2) = true) (h : WalkEnd inv isDir mkdir env s rest t' out) :
    WalkEnd inv isDir mkdir env s (f :: rest) t out :=
  ⟨h.wf, fun q hq => h.stay q (hst q hq),
    fun h0 g hg => (List.mem_cons.1 hg).elim (fun e => e ▸ h.stay _ hf) (h.success h0 g),
    fun hn H => (h.fail hn H).elim fun g hg => ⟨g, List.mem_cons_of_mem _ hg.1, hg.2⟩⟩

theorem WalkEnd.stop {s : List Nat} {f : PathIter} {rest : List PathIter} {t t' : σ} {st : Int}
    (hi : inv t') (hst : ∀ q, isDir t q = true → isDir t' q = true) (hne : st ≠ 0)
    (hcul : RaceEexist inv isDir mkdir env → isDir t' (s.take f.range.2) = false) :
    WalkEnd inv isDir mkdir env s (f :: rest) t (t', st) :=
  ⟨hi, hst, fun h => absurd h hne, fun _ H => ⟨f, List.mem_cons_self, hcul H⟩⟩

/-- The walk examined, once for every operating system and every environment obeying the laws: one
constructor of `WalkEnd` per branch of `createDirectoriesE.go`. -/
theorem goE_main (L : OsLaws inv isDir mkdir) (E : EnvLaws inv isDir env) (s : List Nat)
    (fr : List PathIter) : ∀ k t, inv t →
    WalkEnd inv isDir mkdir env s fr t (createDirectoriesE.go isDir mkdir env s fr k t) := by
  intro k t ht
  fun_induction createDirectoriesE.go isDir mkdir env s fr k t with
  | case1 => exact .nil ht
  | case2 f rest k t pre hd ih => exact .cons (fun _ h => h) hd (ih ht)
  | case3 f rest k t pre hd t' hm ih =>
    have hi1 := E.env_inv k pre t ht
    have hi : inv t' := by have := L.mkdir_inv _ pre hi1; rwa [hm] at this
    exact .cons (fun q h => L.mkdir_mono _ _ t' q hi1 hm (E.env_mono k pre t q ht h))
      (L.mkdir_ok_dir _ _ t' hi1 hm) (ih hi)
  | case4 f rest k t pre hd t' e hm hc ih =>
    -- `mkdir` fails with EXISTS, the second test says "directory"
    obtain ⟨rfl, _⟩ := L.mkdir_fail _ _ t' e (E.env_inv k pre t ht) hm
    exact .cons (fun q => E.env_mono k pre t q ht) hc.2 (ih (E.env_inv k pre t ht))
  | case5 f rest k t pre hd t' e hm hc =>  -- `mkdir` fails otherwise: the walk stops
    obtain ⟨rfl, h2⟩ := L.mkdir_fail _ _ t' e (E.env_inv k pre t ht) hm
    refine .stop (E.env_inv k pre t ht) (fun q => E.env_mono k pre t q ht) h2 fun H => ?_
    -- were the prefix a directory now, the race was lost and the errno would have been EEXIST
    cases hd' : isDir (env k pre t) pre with
    | false => rfl
    | true => exact absurd ⟨H k _ t _ e ht (eq_false_of_ne_true hd) hd' hm, hd'⟩ hc

theorem OsLaws.cut (L : OsLaws inv isDir mkdir) {t : σ} (ht : inv t) {s : List Nat}
    (hd : isDir t s = true) {k : Nat} (hc : Cut s k) : isDir t (s.take k) = true :=
  L.prefix_closed t s k ht hd hc.1 hc.2.1 (hc.2.2.elim Or.inl fun h => Or.inr (Or.inl h))

/-- The laws hold as well under a stronger invariant that `mkdir` keeps, so what the walk keeps of
`inv` (`mkdirsG_dirs_stay`) it keeps of every such `P`. -/
theorem OsLaws.strengthen (L : OsLaws inv isDir mkdir) {P : σ → Prop}
    (hP : ∀ t p, inv t → P t → P (mkdir t p).1) : OsLaws (fun t => inv t ∧ P t) isDir mkdir where
  mkdir_inv := fun t p h => ⟨L.mkdir_inv t p h.1, hP t p h.1 h.2⟩
  mkdir_ok_dir := fun t p t' h => L.mkdir_ok_dir t p t' h.1
  mkdir_fail := fun t p t' e h => L.mkdir_fail t p t' e h.1
  mkdir_mono := fun t p t' q h => L.mkdir_mono t p t' q h.1
  prefix_closed := fun t s k h => L.prefix_closed t s k h.1
  root_dir := fun t s h => L.root_dir t s h.1

def Grown {κ : Type} (dir : κ) (ns ns' : List (List (List Nat) × κ)) : Prop :=
  (∀ p k, (p, k) ∈ ns → (p, k) ∈ ns') ∧ ∀ p k, (p, k) ∈ ns' → (p, k) ∈ ns ∨ k = dir

theorem Grown.refl {κ : Type} (dir : κ) (ns : List (List (List Nat) × κ)) : Grown dir ns ns :=
  ⟨fun _ _ h => h, fun _ _ h => .inl h⟩

theorem Grown.step {κ : Type} {dir : κ} {ns ns' ns'' : List (List (List Nat) × κ)}
    (h : Grown dir ns ns') (hs : ns'' = ns' ∨ ∃ q, ns'' = ns' ++ [(q, dir)]) :
    Grown dir ns ns'' := by
  obtain rfl | ⟨q, rfl⟩ := hs
  · exact h
  · refine ⟨fun p k hp => List.mem_append_left _ (h.1 p k hp), fun p k hp => ?_⟩
    rcases List.mem_append.1 hp with hp | hp
    · exact h.2 p k hp
    · cases List.mem_singleton.1 hp
      exact .inr rfl

theorem goE_existing (L : OsLaws inv isDir mkdir) (s : List Nat) (fr : List PathIter)
    (hcut : ∀ f ∈ fr, Cut s f.range.2) (k : Nat) (t : σ) (ht : inv t) (hd : isDir t s = true) :
    createDirectoriesE.go isDir mkdir env s fr k t = (t, 0) := by
  induction fr with
  | nil => exact goE_nil ..
  | cons f rest ih =>
    rw [goE_cons_dir isDir mkdir env s f rest k t (L.cut ht hd (hcut f List.mem_cons_self))]
    exact ih fun g hg => hcut g (by simp [hg])

theorem goE_id (L : OsLaws inv isDir mkdir) (s : List Nat) (fr : List PathIter) : ∀ k t, inv t →
    createDirectoriesE.go isDir mkdir (fun _ _ t => t) s fr k t =
      createDirectoriesG.go isDir mkdir s fr t := by
  intro k t ht
  fun_induction createDirectoriesG.go isDir mkdir s fr t generalizing k with
  | case1 => exact goE_nil ..
  | case2 f rest t pre hd ih =>
    rw [goE_cons_dir isDir mkdir _ s f rest k t hd]
    exact ih k ht
  | case3 f rest t pre hd t' hm ih =>
    rw [goE_cons_ok isDir mkdir _ s f rest k t t' (eq_false_of_ne_true hd) hm]
    exact ih _ (by have := L.mkdir_inv t pre ht; rwa [hm] at this)
  | case4 f rest t pre hd t' e hm =>
    obtain ⟨rfl, _⟩ := L.mkdir_fail t _ t' e ht hm
    exact goE_cons_err isDir mkdir _ s f rest k _ _ e (eq_false_of_ne_true hd) hm fun h => hd h.2

theorem mkdirsE_quiet (L : OsLaws inv isDir mkdir) (t : σ) (ht : inv t) (s : List Nat) :
    createDirectoriesE isDir mkdir (fun _ _ t => t) t s = createDirectoriesG isDir mkdir t s := by
  by_cases hs : s = []
  · subst hs; rw [createDirectoriesE_nil, createDirectoriesG_nil]
  · rw [createDirectoriesE_ne isDir mkdir _ s t hs, createDirectoriesG_ne isDir mkdir s t hs]
    exact goE_id L s _ 0 t ht

theorem mkdirsE_end (L : OsLaws inv isDir mkdir) (E : EnvLaws inv isDir env) (s : List Nat)
    (hs : s ≠ []) (t : σ) (ht : inv t) :
    WalkEnd inv isDir mkdir env s (fileFrames s) t (createDirectoriesE isDir mkdir env t s) := by
  rw [createDirectoriesE_ne isDir mkdir env s t hs]
  exact goE_main L E s _ 0 t ht

theorem mkdirsE_stay (L : OsLaws inv isDir mkdir) (E : EnvLaws inv isDir env) (t : σ) (ht : inv t)
    (s : List Nat) :
    inv (createDirectoriesE isDir mkdir env t s).1 ∧
    ∀ q, isDir t q = true → isDir (createDirectoriesE isDir mkdir env t s).1 q = true := by
  by_cases hs : s = []
  · subst hs
    rw [createDirectoriesE_nil]
    exact ⟨ht, fun _ h => h⟩
  · exact ⟨(mkdirsE_end L E s hs t ht).wf, (mkdirsE_end L E s hs t ht).stay⟩

/-- From the visited prefixes to the path: the last prefix is `s` (or `s` is the root), and no
prefix at a `Cut` fails to be a directory when `s` is one. -/
theorem mkdirsE_path (L : OsLaws inv isDir mkdir) (E : EnvLaws inv isDir env) (s : List Nat)
    (h0 : 0 ∉ s) (hs : s ≠ []) (t : σ) (ht : inv t) :
    ((createDirectoriesE isDir mkdir env t s).2 = 0 →
      isDir (createDirectoriesE isDir mkdir env t s).1 s = true) ∧
    ((createDirectoriesE isDir mkdir env t s).2 ≠ 0 → RaceEexist inv isDir mkdir env →
      isDir (createDirectoriesE isDir mkdir env t s).1 s = false) := by
  obtain ⟨f1, f2, f3⟩ := fileFrames_ends s h0
  have he := mkdirsE_end L E s hs t ht
  refine ⟨fun h => ?_, fun h H => ?_⟩
  · by_cases hfr : fileFrames s = []
    · -- nothing but separators: the root
      rw [createDirectoriesE_ne isDir mkdir env s t hs, hfr, goE_nil]
      exact L.root_dir t s ht hs (f2 hfr)
    · -- the last prefix visited is the path
      have := he.success h _ (List.getLast_mem hfr)
      rwa [f3 _ (List.getLast?_eq_some_getLast hfr), List.take_length] at this
  · obtain ⟨f, hf, hfd⟩ := he.fail h H
    cases hsd : isDir (createDirectoriesE isDir mkdir env t s).1 s with
    | false => rfl
    | true => exact absurd ((L.cut he.wf hsd (f1 f hf)).symm.trans hfd) (by simp)

theorem mkdirsE_iff (L : OsLaws inv isDir mkdir) (E : EnvLaws inv isDir env)
    (H : RaceEexist inv isDir mkdir env) (s : List Nat) (h0 : 0 ∉ s) (hs : s ≠ []) (t : σ)
    (ht : inv t) :
    (createDirectoriesE isDir mkdir env t s).2 = 0 ↔
      isDir (createDirectoriesE isDir mkdir env t s).1 s = true := by
  obtain ⟨h1, h2⟩ := mkdirsE_path L E s h0 hs t ht
  refine ⟨h1, fun h => Classical.byContradiction fun hn => ?_⟩
  rw [h2 hn H] at h
  exact absurd h (by simp)

end

/-- SUCCESS exactly when the path names a directory afterwards, for every path shape. -/
theorem mkdirsG_success_iff_dir (L : OsLaws inv isDir mkdir) (t : σ) (ht : inv t) (s : List Nat)
    (h0 : 0 ∉ s) (hs : s ≠ []) :
    (createDirectoriesG isDir mkdir t s).2 = 0 ↔ isDir (createDirectoriesG isDir mkdir t s).1 s = true := by
  rw [← mkdirsE_quiet L t ht s]
  exact mkdirsE_iff L quiet_laws RaceEexist.quiet s h0 hs t ht

/-- Whatever the outcome, the state stays well formed and every path that named a directory still
does. -/
theorem mkdirsG_dirs_stay (L : OsLaws inv isDir mkdir) (t : σ) (ht : inv t) (s : List Nat) :
    inv (createDirectoriesG isDir mkdir t s).1 ∧
    ∀ q, isDir t q = true → isDir (createDirectoriesG isDir mkdir t s).1 q = true := by
  rw [← mkdirsE_quiet L t ht s]
  exact mkdirsE_stay L quiet_laws t ht s

/-- If the path already names a directory nothing is touched.

CORRECTED by `hs : s ≠ []`: `OsLaws` does not forbid `isDir t [] = true` (in the symlink-free tree
of `Model/Fs.lean` the empty string names the working directory), and for the empty path the result
is `(t, 5)`, not `(t, 0)` (`mkdirsG_existing_original_false` below). -/
-- ORIGINAL: theorem mkdirsG_existing (L : OsLaws inv isDir mkdir) (t : σ) (ht : inv t)
-- ORIGINAL:     (s : List Nat) (h0 : 0 ∉ s)
-- ORIGINAL:     (hd : isDir t s = true) : createDirectoriesG isDir mkdir t s = (t, 0)
theorem mkdirsG_existing (L : OsLaws inv isDir mkdir) (t : σ) (ht : inv t) (s : List Nat) (h0 : 0 ∉ s)
    (hs : s ≠ []) (hd : isDir t s = true) : createDirectoriesG isDir mkdir t s = (t, 0) := by
  rw [← mkdirsE_quiet L t ht s, createDirectoriesE_ne isDir mkdir _ s t hs]
  exact goE_existing L s _ (fileFrames_ends s h0).1 0 t ht hd

/-- Idempotent: after a success a second call succeeds and changes nothing. -/
theorem mkdirsG_idempotent (L : OsLaws inv isDir mkdir) (t : σ) (ht : inv t) (s : List Nat) (h0 : 0 ∉ s)
    (h : (createDirectoriesG isDir mkdir t s).2 = 0) :
    createDirectoriesG isDir mkdir (createDirectoriesG isDir mkdir t s).1 s =
      ((createDirectoriesG isDir mkdir t s).1, 0) := by
  have hs : s ≠ [] := by
    intro hs; subst hs
    rw [createDirectoriesG_nil] at h
    simp at h
  exact mkdirsG_existing L _ (mkdirsG_dirs_stay L t ht s).1 s h0 hs
    ((mkdirsG_success_iff_dir L t ht s h0 hs).1 h)

/-- An operating system obeying `OsLaws` in which the empty string names a directory. -/
theorem allDirs_laws :
    OsLaws (σ := Unit) (fun _ => True) (fun _ _ => true) (fun t _ => (t, some 17)) where
  mkdir_inv := fun _ _ _ => trivial
  mkdir_ok_dir := fun _ _ _ _ _ => rfl
  mkdir_fail := fun t p t' e _ h => by
    simp only [Prod.mk.injEq, Option.some.injEq] at h
    obtain ⟨_, h2⟩ := h
    subst h2
    exact ⟨rfl, by decide⟩
  mkdir_mono := fun _ _ _ _ _ _ _ => rfl
  prefix_closed := fun _ _ _ _ _ _ _ _ => rfl
  root_dir := fun _ _ _ _ _ => rfl

/-- The original statement of `mkdirsG_existing` (without `s ≠ []`) fails for the empty path. -/
theorem mkdirsG_existing_original_false :
    ¬ (∀ {σ : Type} {inv : σ → Prop} {isDir : σ → List Nat → Bool} {mkdir : σ → List Nat → σ × Option Int},
        OsLaws inv isDir mkdir → ∀ (t : σ), inv t → ∀ (s : List Nat), 0 ∉ s → isDir t s = true →
        createDirectoriesG isDir mkdir t s = (t, 0)) := by
  intro h
  have := h allDirs_laws () trivial [] (by simp) rfl
  rw [createDirectoriesG_nil] at this
  simp at this

/-- The empty path is a bad argument and nothing is created. -/
theorem mkdirsG_empty (t : σ) : createDirectoriesG isDir mkdir t [] = (t, 5) :=
  createDirectoriesG_nil isDir mkdir t

/-- a tree with a symbolic link `k -> a` in the working directory `/S/w` -/
def demo : Tree :=
  ⟨[([[83]], .dir), ([[83], [119]], .dir), ([[83], [119], [97]], .dir),
      ([[83], [119], [107]], .link [97])],
    [[83], [119]]⟩

-- "k/b": created through the link, physically at /S/w/a/b
example : (FsLink.createDirectories demo [107, 47, 98]).2 = 0 := by decide

example :
    (FsLink.createDirectories demo [107, 47, 98]).1.lookup [[83], [119], [97], [98]] =
      some .dir := by decide

-- "k" itself is a directory (through the link): nothing to do
example : FsLink.createDirectories demo [107] = (demo, 0) := by decide

end Zix.C15Link


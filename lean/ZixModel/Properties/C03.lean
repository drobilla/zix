import ZixModel.Lemmas.Hash
/-! # C03 — hash table is a faithful, always-terminating map for any hash function

Stated with the invariant `Inv` of `ZixModel/Spec/Hash.lean`.  The key accessor `keyOf` and the hash
function `codeOf` are ARBITRARY FUNCTIONS (constant, colliding, anything). -/
namespace Zix.C03
open Zix.Hash Zix.Generated

/-- Side conditions on the regenerated constants: a tombstone is distinguishable from an empty
slot (in hash.c both have a NULL value, an empty entry with hash 0, a tombstone with
`hashTombstone`; the model's `Slot` has a constructor for each, so the constant occurs only here),
the minimum size is 4 (a power of two), the divisors are positive and the load threshold leaves
free slots.  The proofs use the generated values themselves (`hashLoadDiv1 = 2` and
`hashLoadDiv2 = 8` in `load_fits`, `hashShrinkDiv = 4` in `shrink_fits`): were hash.c to change
them, these are the places that fail. -/
theorem const_side_conditions :
    hashTombstone ≠ 0 ∧ hashMinEntries = 4 ∧ 0 < hashLoadDiv1 ∧ 0 < hashLoadDiv2 ∧ 0 < hashShrinkDiv ∧
    (∀ n, 4 ≤ n → n / hashLoadDiv1 + n / hashLoadDiv2 < n) :=
  ⟨by decide, by decide, by decide, by decide, by decide, fun _ => load_fits⟩

/-- `find_entry` with fuel = table size never runs out: every slot is visited at most once before
an empty slot, a match, or the full-cycle guard stops the probe. -/
theorem hash_probe_terminates (keyOf : Nat → Nat) (slots : List Slot) (key code start : Nat)
    (hs : start < slots.length) (evs : List Ev) :
    (findEntry keyOf slots key code start slots.length start evs).isSome := by
  obtain ⟨e, res, ft, evs', -, hfind, -⟩ := walk_spec keyOf slots key code start hs evs
  rw [hfind]; rfl

theorem hash_plan_terminates (keyOf : Nat → Nat) (slots : List Slot) (key code start : Nat)
    (hs : start < slots.length) (evs : List Ev) :
    (planInsert keyOf slots key code start slots.length start none evs).isSome := by
  obtain ⟨e, res, ft, evs', -, -, hplan⟩ := walk_spec keyOf slots key code start hs evs
  rw [hplan]; rfl

theorem inv_new (keyOf codeOf : Nat → Nat) : Inv keyOf codeOf new :=
  Inv.of_sinv (by decide) ⟨2, by decide⟩ (liveList_replicate_empty _ ▸ rfl) (by decide)
    (SInv.replicate _ _ _)

/-- `zix_hash_find` returns the slot of the live record with that key if there is one … -/
theorem find_some_iff (keyOf codeOf : Nat → Nat) (t : Table) (h : Inv keyOf codeOf t) (key i : Nat) :
    (find keyOf t key (codeOf key)).1 = some i ↔ ∃ r, HoldsAt t i (codeOf key) r ∧ keyOf r = key := by
  constructor
  · intro hf
    obtain ⟨r, hr, hk⟩ := find_match keyOf t key (codeOf key) i hf
    exact ⟨r, holdsAt_iff.2 hr, hk⟩
  · rintro ⟨r, hr, hk⟩
    exact h.sinv.find_some (holdsAt_iff.1 hr) hk

/-- … and the end iterator exactly when no live record has that key. -/
theorem find_none_iff (keyOf codeOf : Nat → Nat) (t : Table) (h : Inv keyOf codeOf t) (key : Nat) :
    (find keyOf t key (codeOf key)).1 = none ↔ ∀ r ∈ liveRecs t, keyOf r ≠ key := by
  constructor
  · intro hnone r hr hk
    obtain ⟨i, hi⟩ := h.holdsAt_of_mem hr
    have := (find_some_iff keyOf codeOf t h key i).2 ⟨r, hk ▸ hi, hk⟩
    rw [hnone] at this; cases this
  · intro habs
    cases hf : (find keyOf t key (codeOf key)).1 with
    | none => rfl
    | some i =>
      obtain ⟨r, hr, hk⟩ := (find_some_iff keyOf codeOf t h key i).1 hf
      exact absurd hk (habs r (mem_liveRecs.2 ⟨i, _, hr⟩))

/-- A duplicate key is refused with EXISTS and nothing changes. -/
theorem insert_exists (keyOf codeOf : Nat → Nat) (t : Table) (h : Inv keyOf codeOf t) (rec : Nat) (ok : Bool)
    (hdup : ∃ r ∈ liveRecs t, keyOf r = keyOf rec) :
    (insert keyOf t rec (codeOf (keyOf rec)) ok).1 = t ∧
    (insert keyOf t rec (codeOf (keyOf rec)) ok).2.1 = .exists_ := by
  obtain ⟨r, hr, hk⟩ := hdup
  obtain ⟨i, hi⟩ := h.holdsAt_of_mem hr
  have hi' : t.slots.getD i .empty = .live (codeOf (keyOf rec)) r := holdsAt_iff.1 (hk ▸ hi)
  obtain ⟨e, res, ft, evs', hst, _, hpl⟩ :=
    walk_spec keyOf t.slots (keyOf rec) (codeOf (keyOf rec)) _ (h.home_lt _)
      [Ev.key rec, Ev.hash (keyOf rec)]
  rw [h.sinv.stop_eq hst hi' hk, planPos_live hi'] at hpl
  rw [insert_eq, hpl]
  dsimp only
  rw [insertAt_live _ _ _ _ hi']
  exact ⟨rfl, rfl⟩

/-- A new key is inserted (SUCCESS), or — only if a larger table was needed and could not be
allocated — refused with NO_MEM leaving the table exactly as it was.  The invariant is kept and the
set of live records is the old one plus the new record. -/
theorem insert_new (keyOf codeOf : Nat → Nat) (t : Table) (h : Inv keyOf codeOf t) (rec : Nat) (ok : Bool)
    (hnew : ∀ r ∈ liveRecs t, keyOf r ≠ keyOf rec) :
    let res := insert keyOf t rec (codeOf (keyOf rec)) ok
    (res.2.1 = .success ∧ Inv keyOf codeOf res.1 ∧
      (∀ r, r ∈ liveRecs res.1 ↔ r ∈ liveRecs t ∨ r = rec) ∧ res.1.count = t.count + 1) ∨
    (ok = false ∧ res.2.1 = .noMem ∧ res.1 = t) := by
  have hs := h.home_lt (codeOf (keyOf rec))
  obtain ⟨e, res, ft, evs', hst, _, hpl⟩ :=
    walk_spec keyOf t.slots (keyOf rec) (codeOf (keyOf rec)) _ hs [Ev.key rec, Ev.hash (keyOf rec)]
  obtain ⟨hi, hnl, hpath, _⟩ := hst.absent hs hnew (h.countEq ▸ h.load)
  exact insertAt_new keyOf codeOf t h rec _ ok evs' hnew hi hnl hpath _ (by rw [insert_eq, hpl])

/-- Removing a key that is not stored: NOT_FOUND, no record handed back, nothing changes. -/
theorem remove_absent (keyOf codeOf : Nat → Nat) (t : Table) (h : Inv keyOf codeOf t) (key : Nat) (ok : Bool)
    (habs : ∀ r ∈ liveRecs t, keyOf r ≠ key) :
    (remove keyOf t key (codeOf key) ok).1 = t ∧ (remove keyOf t key (codeOf key) ok).2.1 = .notFound ∧
    (remove keyOf t key (codeOf key) ok).2.2.1 = none := by
  rw [remove_eq, (find_none_iff keyOf codeOf t h key).2 habs]
  exact ⟨rfl, rfl, rfl⟩

/-- Removing a present key hands back exactly that record, keeps the invariant, and leaves all
other records in place (whether or not the table could be shrunk). -/
theorem remove_present (keyOf codeOf : Nat → Nat) (t : Table) (h : Inv keyOf codeOf t) (key r0 : Nat) (ok : Bool)
    (hr : r0 ∈ liveRecs t) (hk : keyOf r0 = key) :
    let res := remove keyOf t key (codeOf key) ok
    res.2.2.1 = some r0 ∧ Inv keyOf codeOf res.1 ∧
    (∀ r, r ∈ liveRecs res.1 ↔ r ∈ liveRecs t ∧ r ≠ r0) ∧ res.1.count + 1 = t.count ∧
    (res.2.1 = .success ∨ (ok = false ∧ res.2.1 = .noMem)) := by
  obtain ⟨i, hi⟩ := h.holdsAt_of_mem hr
  rw [remove_eq, (find_some_iff keyOf codeOf t h key i).2 ⟨r0, hk ▸ hi, hk⟩]
  exact erase_live keyOf codeOf t h i _ r0 ok hi (erase keyOf t i ok) rfl

/-- `zix_hash_erase(i)` at a position that holds no record — the end iterator, a tombstone, an
empty slot, or any out-of-range value — is refused with BAD_ARG: the table is untouched, `removed`
is NULL and no user callback runs.  No invariant is needed. -/
theorem eraseAt_not_record (keyOf : Nat → Nat) (t : Table) (i : Nat) (ok : Bool)
    (hnone : recordAt t i = none) :
    eraseAt keyOf t i ok = (t, .badArg, none, []) := by
  unfold eraseAt; rw [hnone]

/-- Erasing at the end iterator (`zix_hash_end`, index `t.n`) is refused with BAD_ARG and nothing
changes — in every table, no hypothesis needed. -/
theorem eraseAt_end (keyOf : Nat → Nat) (t : Table) (ok : Bool) :
    eraseAt keyOf t t.n ok = (t, .badArg, none, []) :=
  eraseAt_not_record keyOf t t.n ok (recordAt_ge t t.n (Nat.le_refl _))

/-- Erasing at ANY position that holds a record: the conclusion of `remove_present`, without going
through `find`. -/
theorem eraseAt_record (keyOf codeOf : Nat → Nat) (t : Table) (h : Inv keyOf codeOf t) (i r0 : Nat) (ok : Bool)
    (hrec : recordAt t i = some r0) :
    let res := eraseAt keyOf t i ok
    res.2.2.1 = some r0 ∧ Inv keyOf codeOf res.1 ∧
    (∀ r, r ∈ liveRecs res.1 ↔ r ∈ liveRecs t ∧ r ≠ r0) ∧ res.1.count + 1 = t.count ∧
    (res.2.1 = .success ∨ (ok = false ∧ res.2.1 = .noMem)) := by
  obtain ⟨c, hi⟩ := recordAt_some_iff.1 hrec
  exact erase_live keyOf codeOf t h i c r0 ok hi _ (by unfold eraseAt; rw [hrec])

/-- `zix_hash_size` is the number of live records and begin..end visits each exactly once. -/
theorem size_and_iteration (keyOf codeOf : Nat → Nat) (t : Table) (h : Inv keyOf codeOf t)
    (hinj : ∀ i j c d r, HoldsAt t i c r → HoldsAt t j d r → i = j) :
    t.count = (iterate t).length ∧ (iterate t).Nodup :=
  have _ := hinj   -- not needed: it follows from `h.distinct`
  ⟨h.countEq, iterate_nodup h⟩

/-- Every callback event of `find` is `hash key`, `key r` for a stored record `r`, or
`eq (keyOf r) key` for a stored record `r` (stored key first, probe key second). -/
theorem find_callbacks (keyOf : Nat → Nat) (t : Table) (key code : Nat) :
    ∀ e ∈ (find keyOf t key code).2,
      e = .hash key ∨ (∃ r ∈ liveRecs t, e = .key r) ∨ (∃ r ∈ liveRecs t, e = .eq (keyOf r) key) := by
  apply find_events
  · exact Or.inl rfl
  · intro r hr
    exact ⟨Or.inr (Or.inl ⟨r, hr, rfl⟩), Or.inr (Or.inr ⟨r, hr, rfl⟩)⟩

theorem insert_callbacks (keyOf : Nat → Nat) (t : Table) (rec code : Nat) (ok : Bool) :
    ∀ e ∈ (insert keyOf t rec code ok).2.2,
      e = .hash (keyOf rec) ∨ (∃ r, (r ∈ liveRecs t ∨ r = rec) ∧ e = .key r) ∨
      (∃ r s, (r ∈ liveRecs t ∨ r = rec) ∧ (s ∈ liveRecs t ∨ s = rec) ∧ e = .eq (keyOf r) (keyOf s)) :=
  insert_events (Q := fun r => r ∈ liveRecs t ∨ r = rec) (fun r hr => Or.inr (Or.inl ⟨r, hr, rfl⟩))
    (fun r s hr hs => Or.inr (Or.inr ⟨r, s, hr, hs, rfl⟩)) t rec code ok (Or.inl rfl)
    (fun _ hr => Or.inl hr) (Or.inr rfl)

/-! Non-vacuity: a constant hash function; a table whose every non-live slot is a tombstone. -/
example : (find (fun r => r) ⟨[.live 7 1, .tomb, .live 7 2, .tomb], 2⟩ 9 7).1 = none := by decide

example : (insert (fun r => r) (insert (fun r => r) new 1 7 true).1 2 7 true).2.1 = .success := by decide

/-! erase at a live slot, at a tombstone, at an empty slot, at the end iterator and beyond it -/
example : (eraseAt (fun r => r) ⟨[.live 7 1, .tomb, .live 7 2, .empty], 2⟩ 2 true).2 =
    (.success, some 2, []) := by decide

example : (eraseAt (fun r => r) ⟨[.live 7 1, .tomb, .live 7 2, .empty], 2⟩ 1 true).2 =
    (.badArg, none, []) := by decide

example : (eraseAt (fun r => r) ⟨[.live 7 1, .tomb, .live 7 2, .empty], 2⟩ 3 true).2 =
    (.badArg, none, []) := by decide

example : (eraseAt (fun r => r) ⟨[.live 7 1, .tomb, .live 7 2, .empty], 2⟩ 4 true).2 =
    (.badArg, none, []) := by decide

example : (eraseAt (fun r => r) ⟨[.live 7 1, .tomb, .live 7 2, .empty], 2⟩ 9 true).2 =
    (.badArg, none, []) := by decide

namespace Counterexample

/-- The invariant exactly as originally stated (no `pow2` field). -/
structure InvOrig (keyOf codeOf : Nat → Nat) (t : Table) : Prop where
  size4     : 4 ≤ t.n
  countEq   : t.count = (liveRecs t).length
  load      : t.count < t.n
  codes     : ∀ i c r, HoldsAt t i c r → c = codeOf (keyOf r)
  distinct  : ∀ i j c d r s, HoldsAt t i c r → HoldsAt t j d s → keyOf r = keyOf s → i = j
  reachable : ∀ i c r, HoldsAt t i c r → PathNonEmpty t (fold c t.n) i

/-- five slots, record 1 (key 1, code 0) in its home slot -/
def t5 : Table := ⟨[.live 0 1, .empty, .empty, .empty, .empty], 1⟩

theorem t5_holds {i c r : Nat} (h : HoldsAt t5 i c r) : i = 0 ∧ c = 0 ∧ r = 1 := by
  cases i with
  | zero => cases (Option.some.inj h : Slot.live 0 1 = Slot.live c r); exact ⟨rfl, rfl, rfl⟩
  | succ i =>
    have : Slot.live c r ∈ [Slot.empty, .empty, .empty, .empty] := List.mem_of_getElem? h
    simp at this

theorem t5_inv : InvOrig (fun r => r) (fun _ => 0) t5 := by
  refine ⟨by decide, by decide, by decide, ?_, ?_, ?_⟩
  · intro i c r h; exact (t5_holds h).2.1
  · intro i j c d r s hi hj _; rw [(t5_holds hi).1, (t5_holds hj).1]
  · intro i c r h
    obtain ⟨rfl, rfl, rfl⟩ := t5_holds h
    intro d hd
    have h0 : (0 + t5.n - fold 0 t5.n) % t5.n = 0 := by decide
    rw [h0] at hd
    exact absurd hd (Nat.not_lt_zero d)

/-- `remove_present` fails for the original invariant: the table shrinks to 2 slots. -/
theorem orig_inv_not_preserved :
    InvOrig (fun r => r) (fun _ => 0) t5 ∧ 1 ∈ liveRecs t5 ∧
    (remove (fun r => r) t5 1 0 true).1.n = 2 ∧
    ¬ InvOrig (fun r => r) (fun _ => 0) (remove (fun r => r) t5 1 0 true).1 := by
  refine ⟨t5_inv, by decide, by decide, ?_⟩
  intro h
  exact absurd h.size4 (by decide)

end Counterexample

end Zix.C03

import ZixModel.Model.Lock
import ZixModel.Lemmas.Errno
/-! # C19 — file locks are mutually exclusive; TRY never blocks, BLOCK waits

Theorems about zix's flag plumbing (regenerated from the source) composed with an ASSUMED flock
semantics (`Zix.Lock.flock`); the kernel's behaviour is observed by the harness. -/
namespace Zix.C19
open Zix.Lock Zix.Generated Zix.Errno

/-- The flag expressions: both lock modes ask for an exclusive lock, TRY (and only TRY) carries
LOCK_NB; both unlock modes release. -/
theorem lock_flags_shape :
    lockFlagsBlock &&& LOCK_EX ≠ 0 ∧ lockFlagsBlock &&& LOCK_NB = 0 ∧ lockFlagsBlock &&& LOCK_UN = 0 ∧
    lockFlagsTry &&& LOCK_EX ≠ 0 ∧ lockFlagsTry &&& LOCK_NB ≠ 0 ∧ lockFlagsTry &&& LOCK_UN = 0 ∧
    unlockFlagsBlock &&& LOCK_UN ≠ 0 ∧ unlockFlagsTry &&& LOCK_UN ≠ 0 := by decide

/-- The assumed `flock` on a request that is no unlock and asks for an exclusive lock: the grant
test, and LOCK_NB decides between refusing and waiting. -/
theorem flock_ex {flags : Nat} (hun : flags &&& LOCK_UN = 0) (hex : flags &&& LOCK_EX ≠ 0)
    (t : Table) (ofd : Nat) :
    flock t ofd flags = if t.holders.all (· = ofd) then (⟨[ofd]⟩, .ok)
      else if flags &&& LOCK_NB ≠ 0 then (t, .wouldBlock) else (t, .blocks) := by
  rw [flock, if_neg (show ¬ flags &&& LOCK_UN ≠ 0 from fun h => h hun), if_pos hex]

theorem flock_un {flags : Nat} (hun : flags &&& LOCK_UN ≠ 0) (t : Table) (ofd : Nat) :
    flock t ofd flags = (closeOfd t ofd, .ok) := by
  rw [flock, if_pos hun]; rfl

theorem flock_lockFlags (t : Table) (ofd : Nat) (m : Mode) :
    flock t ofd (lockFlags m) = if t.holders.all (· = ofd) then (⟨[ofd]⟩, .ok)
      else (t, match m with | .try_ => .wouldBlock | .block => .blocks) := by
  obtain ⟨bEX, bNB, bUN, tEX, tNB, tUN, -, -⟩ := lock_flags_shape
  cases m
  · rw [lockFlags, flock_ex bUN bEX,
      if_neg (show ¬ lockFlagsBlock &&& LOCK_NB ≠ 0 from fun h => h bNB)]
  · rw [lockFlags, flock_ex tUN tEX, if_pos tNB]

theorem fileLock_eq (t : Table) (ofd : Nat) (m : Mode) :
    fileLock t ofd m = if t.holders.all (· = ofd) then (⟨[ofd]⟩, some (0 : Int))
      else (t, match m with | .try_ => some 11 | .block => none) := by
  unfold fileLock
  rw [flock_lockFlags]
  by_cases h : t.holders.all (· = ofd) = true
  · rw [if_pos h, if_pos h]
  · rw [if_neg h, if_neg h]
    cases m
    · rfl
    · -- EWOULDBLOCK (= EAGAIN, 11) is reported as UNAVAILABLE (11)
      exact congrArg (fun st => (t, some st)) ((Zix.C17.errno_unavailable_iff 11).2 rfl)

theorem fileUnlock_eq (t : Table) (ofd : Nat) (m : Mode) :
    fileUnlock t ofd m = (closeOfd t ofd, some 0) := by
  obtain ⟨-, -, -, -, -, -, bUN, tUN⟩ := lock_flags_shape
  have hun : unlockFlags m &&& LOCK_UN ≠ 0 := by
    cases m
    · exact bUN
    · exact tUN
  rw [fileUnlock, flock_un hun]

/-- The assumed `flock` keeps at most one holder whatever the flags: mutual exclusion is the
kernel's, not a matter of which flags zix passes. -/
theorem flock_holders_le_one (t : Table) (ofd flags : Nat) (ht : t.holders.length ≤ 1) :
    (flock t ofd flags).1.holders.length ≤ 1 := by
  fun_cases flock t ofd flags
  · exact Nat.le_trans (List.length_filter_le _ _) ht
  · exact Nat.le_refl 1
  all_goals exact ht  -- refused, waiting, neither flag: the table stays

theorem fileLock_fst (t : Table) (ofd : Nat) (m : Mode) :
    (fileLock t ofd m).1 = (flock t ofd (lockFlags m)).1 := by
  unfold fileLock
  rcases flock t ofd (lockFlags m) with ⟨t', _ | _ | _⟩ <;> rfl

theorem fileUnlock_fst (t : Table) (ofd : Nat) (m : Mode) :
    (fileUnlock t ofd m).1 = (flock t ofd (unlockFlags m)).1 := by
  unfold fileUnlock
  rcases flock t ofd (unlockFlags m) with ⟨t', _ | _ | _⟩ <;> rfl

theorem step_holders_le_one (t : Table) (op : Op) (ht : t.holders.length ≤ 1) :
    (step t op).holders.length ≤ 1 := by
  cases op with
  | lock o m => rw [step, fileLock_fst]; exact flock_holders_le_one t o _ ht
  | unlock o m => rw [step, fileUnlock_fst]; exact flock_holders_le_one t o _ ht
  | close o => exact Nat.le_trans (List.length_filter_le _ _) ht

/-- Mutual exclusion: from a free file, after any interleaving of lock / unlock / close by any
number of handles in any modes, at most one open file description holds the lock. -/
theorem lock_mutual_exclusion (ops : List Op) : (ops.foldl step ⟨[]⟩).holders.length ≤ 1 :=
  List.foldlRecOn ops step (motive := fun t => t.holders.length ≤ 1) (Nat.zero_le 1)
    fun t ht op _ => step_holders_le_one t op ht

/-- TRY returns immediately: SUCCESS when the lock is free (or already ours), UNAVAILABLE when
another open file description holds it; it never blocks. -/
theorem try_returns_immediately (t : Table) (ofd : Nat) :
    (fileLock t ofd .try_).2 ≠ none ∧
    (t.holders.all (· = ofd) = true →
      (fileLock t ofd .try_).2 = some 0 ∧ (fileLock t ofd .try_).1.holders = [ofd]) ∧
    (t.holders.all (· = ofd) = false →
      (fileLock t ofd .try_).2 = some 11 ∧ (fileLock t ofd .try_).1.holders = t.holders) := by
  rw [fileLock_eq]
  cases t.holders.all (· = ofd) <;> simp

/-- BLOCK returns only once the lock has been acquired: it either returns SUCCESS holding the lock,
or does not return (and changes nothing) while another holder has it. -/
theorem block_returns_only_when_acquired (t : Table) (ofd : Nat) :
    ((fileLock t ofd .block).2 = some 0 ∧ (fileLock t ofd .block).1.holders = [ofd]) ∨
    ((fileLock t ofd .block).2 = none ∧ (fileLock t ofd .block).1.holders = t.holders ∧
      t.holders.all (· = ofd) = false) := by
  rw [fileLock_eq]
  cases t.holders.all (· = ofd) <;> simp

/-- Signals are transparent: however many `flock` calls are interrupted (EINTR), `zix_file_lock`
ends exactly as the uninterrupted call does — in BLOCK mode still only by holding the lock — after
one more `flock` call per interruption.  Rests on the regenerated fact that the source retries. -/
theorem lock_interrupts_transparent (t : Table) (ofd : Nat) (mode : Mode) (k : Nat) :
    fileLockSig t ofd mode k = ((fileLock t ofd mode).1, (fileLock t ofd mode).2, k + 1) := by
  fun_induction fileLockSig t ofd mode k with
  | case1 => rfl
  | case2 k _ r ih => rw [show r = _ from ih]
  | case3 k h => exact absurd (by decide) h  -- the source does retry

/-- In particular an interrupted BLOCK request never returns without the lock. -/
theorem block_interrupted_returns_only_when_acquired (t : Table) (ofd : Nat) (k : Nat) :
    ((fileLockSig t ofd .block k).2.1 = some 0 ∧ (fileLockSig t ofd .block k).1.holders = [ofd]) ∨
    ((fileLockSig t ofd .block k).2.1 = none ∧ (fileLockSig t ofd .block k).1.holders = t.holders) := by
  rw [lock_interrupts_transparent]
  rcases block_returns_only_when_acquired t ofd with h | h
  · exact Or.inl h
  · exact Or.inr ⟨h.1, h.2.1⟩

/-- Unlock (in either mode) releases: afterwards the lock is free, so a later or waiting locker
(any mode) succeeds at once. -/
theorem unlock_releases (t : Table) (holder other : Nat) (m m' : Mode) (ht : t.holders = [holder]) :
    (fileUnlock t holder m).2 = some 0 ∧ (fileUnlock t holder m).1.holders = [] ∧
    (fileLock (fileUnlock t holder m).1 other m').2 = some 0 := by
  have h : (closeOfd t holder).holders = [] := by simp [closeOfd, ht]
  rw [fileUnlock_eq, fileLock_eq, h]
  exact ⟨rfl, rfl, rfl⟩

example :
    (fileLockSig ⟨[]⟩ 1 .block 3).1.holders = [1] ∧
      (fileLockSig ⟨[]⟩ 1 .block 3).2 = (some 0, 4) := by decide

example :
    (([.lock 1 .try_, .lock 2 .try_, .lock 2 .block, .unlock 1 .try_, .lock 2 .block] :
      List Op).foldl step ⟨[]⟩).holders = [2] := by decide

end Zix.C19

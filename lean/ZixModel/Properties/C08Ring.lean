import ZixModel.Model.RingAlloc
import ZixModel.Lemmas.Ring
/-! # C07 / C08 for the ring's constructor and destructor

For every size and EVERY refusal pattern: `zix_ring_new` either returns NULL with nothing left
outstanding, or a ring whose two blocks are exactly what is outstanding; `zix_ring_free` then
releases both, each once; NULL is returned exactly when the size cannot be represented or one of
the two requests was refused. -/
namespace Zix.C08Ring
open Zix.Ring Zix.RingAlloc

theorem ring_new_null_iff (fails : Nat → Bool) (size : Nat) :
    (newA fails size).2 = none ↔ (nextPow2 size = 0 ∨ fails 0 = true ∨ fails 1 = true) := by
  unfold newA
  fun_cases newN fails (nextPow2 size) <;> simp [*]

/-- NULL: nothing stays allocated.  A ring: exactly its header and its buffer are outstanding. -/
theorem ring_new_leak_free (fails : Nat → Bool) (size : Nat) :
    ((newA fails size).2 = none ∧ outstanding (newA fails size).1 [] = some []) ∨
    ((newA fails size).2 = some (1, 2) ∧ outstanding (newA fails size).1 [] = some [2, 1]) := by
  unfold newA
  fun_cases newN fails (nextPow2 size) with
  | case1 => exact .inl ⟨rfl, rfl⟩  -- size 0 or above 2^31: nothing is requested
  | case2 => exact .inl ⟨rfl, rfl⟩  -- the header is refused
  | case3 => exact .inl ⟨rfl, rfl⟩  -- the buffer is refused: the header is released again
  | case4 => exact .inr ⟨rfl, rfl⟩  -- both granted

/-- Creation followed by `zix_ring_free` (also of NULL) releases every block exactly once. -/
theorem ring_lifecycle_balanced (fails : Nat → Bool) (size : Nat) :
    outstanding ((newA fails size).1 ++ freeA (newA fails size).2) [] = some [] := by
  unfold newA
  fun_cases newN fails (nextPow2 size) <;> rfl

/-- With enough memory every size from 1 to 2^31 gives a ring (whose buffer request is the rounded
size). -/
theorem ring_new_no_fault (size : Nat) (h1 : 1 ≤ size) (h2 : size ≤ 2 ^ 31) :
    newA (fun _ => false) size = ([.malloc none (some 1), .malloc (some (nextPow2 size)) (some 2)], some (1, 2)) := by
  have hpos := nextPow2_pos size h1 h2
  unfold newA newN
  rw [if_neg (by omega)]
  rfl

example :
    newN (fun k => k == 1) 8 =
      ([.malloc none (some 1), .malloc (some 8) none, .free 1], none) := by decide

example : newN (fun _ => false) 0 = ([], none) := by decide

end Zix.C08Ring

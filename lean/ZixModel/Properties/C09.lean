import ZixModel.Lemmas.Bump
/-! # C09 — bump allocator hands out in-bounds, aligned, disjoint blocks or NULL

All arithmetic in the conclusions is in unbounded ℕ; the model computes in `size_t` (`% 2^64`), so
"a request near SIZE_MAX is refused" is a consequence, not an assumption. -/
namespace Zix.C09
open Zix.Bump

/-- The initial top makes the first address aligned, for every buffer address, and skips < 8
bytes. -/
theorem bump_initial_top (base cap : Nat) :
    ((init base cap).base + (init base cap).top) % minAlign = 0 ∧ (init base cap).top < minAlign :=
  init_top base cap

theorem step_inv {s : State} (hi : Inv s) (r : Req) (hv : r.Valid s) : Inv (step s r).1 := by
  fun_cases step s r with
  | case1 n => exact malloc_inv hi n
  | case2 n m => exact calloc_inv hi n m
  | case3 id n b => exact realloc_inv hi _ n
  | case4 => exact hi  -- realloc of no live block
  | case5 id => exact free_inv hi id
  | case6 a n => exact alignedAlloc_inv hi hv.1 hv.2.1 hv.2.2.1 n

theorem run_inv (reqs : List Req) :
    ∀ (s : State), Inv s → ValidHistory s reqs → Inv (run s reqs) := by
  induction reqs with
  | nil => intro s hi _; exact hi
  | cons r rs ih => intro s hi hv; exact ih _ (step_inv hi r hv.1) hv.2

/-- The invariant holds after every valid request history, from every buffer. -/
theorem bump_inv_reachable (base cap : Nat) (hb : base + cap < W) (reqs : List Req)
    (hv : ValidHistory (init base cap) reqs) : Inv (run (init base cap) reqs) :=
  run_inv reqs _ (inv_init base cap hb) hv

/-- In every state satisfying the invariant (hence every reachable one) each live block is
8-aligned, lies wholly inside the buffer, and no two live blocks overlap or share an address. -/
theorem bump_live_blocks_sound {s : State} (hi : Inv s) :
    (∀ b ∈ s.live, (s.base + b.off) % 8 = 0 ∧ b.off + b.size ≤ s.cap) ∧ s.live.Pairwise Apart := by
  refine ⟨?_, hi.disj⟩
  intro b hb
  rcases hi.topCap with h | h
  · exact ⟨hi.blk_aligned hb, Nat.le_trans (hi.blk_top hb).1 h⟩
  · rw [h] at hb; cases hb

/-- `malloc`: a granted block is aligned, inside the buffer with all `n` requested bytes, and
disjoint from every live block. -/
theorem bump_malloc_sound {s s' : State} (hi : Inv s) {n off : Nat}
    (h : malloc s n = (s', some off)) :
    (s.base + off) % 8 = 0 ∧ off + n ≤ s.cap ∧
    ∀ b ∈ s.live, b.off + b.size ≤ off ∧ b.off < off := by
  obtain ⟨rfl, hfit⟩ := malloc_some hi.cap_lt h
  have := (idealSize_spec n).1
  exact ⟨hi.topA, by omega, fun _ hb => hi.blk_top hb⟩

/-- `malloc` is refused exactly when the block, rounded up to the alignment unit (a zero-size
request occupying one unit), does not fit in the space left — computed in unbounded ℕ. -/
theorem bump_malloc_fail_iff {s : State} (hi : Inv s) {n : Nat} (hn : n < W) :
    (malloc s n).2 = none ↔ s.cap < s.top + ru8 (if n = 0 then 1 else n) := by
  have _ := hn  -- not needed: a request of `W` bytes or more is refused, and does not fit
  rw [malloc_eq hi.cap_lt, ← idealSize_def]
  split <;> simp [*]

/-- A refused request changes nothing.  `hr`: `step` gives `none` for every `free`, which has no
result to refuse. -/
theorem bump_fail_changes_nothing {s s' : State} (r : Req) (hr : ∀ id, r ≠ .free id)
    (h : step s r = (s', none)) : s' = s := by
  revert h
  fun_cases step s r with
  | case1 => exact malloc_refused
  | case2 => exact calloc_refused
  | case3 => exact realloc_refused
  | case4 =>
    intro h
    cases h
    rfl
  | case5 id => exact absurd rfl (hr id)
  | case6 => exact alignedAlloc_refused

/-- `calloc`: the product is computed without wrap-around; a granted block has all `n*m` bytes. -/
theorem bump_calloc_sound {s s' : State} (hi : Inv s) {n m off : Nat}
    (h : calloc s n m = (s', some off)) :
    n * m < W ∧ (s.base + off) % 8 = 0 ∧ off + n * m ≤ s.cap ∧
    ∀ b ∈ s.live, b.off + b.size ≤ off ∧ b.off < off := by
  rw [calloc_eq] at h
  split at h
  · cases h
  · exact ⟨Nat.lt_of_not_le ‹_›, bump_malloc_sound hi h⟩

/-- `calloc` refuses every request whose true product does not fit in `size_t`. -/
theorem bump_calloc_overflow_refused (s : State) {n m : Nat} (h : W ≤ n * m) :
    calloc s n m = (s, none) := by
  rw [calloc_eq, if_pos h]

/-- `realloc` succeeds only for the most recent block, never moves it, and the resized block
still lies in the buffer and clear of every other live block. -/
theorem bump_realloc_sound {s s' : State} (hi : Inv s) {off n p : Nat}
    (h : realloc s off n = (s', some p)) :
    p = off ∧ off = s.last ∧ off + n ≤ s.cap ∧
    ∀ b ∈ s.live, b.off ≠ off → b.off + b.size ≤ off ∧ b.off < off := by
  have := (idealSize_spec n).1
  rw [realloc_eq hi.cap_lt] at h
  split at h
  · cases h
  · cases h
    obtain rfl : off = s.last := by omega
    exact ⟨rfl, rfl, by omega, fun _ hb hne => (hi.blk_last hb).resolve_left hne⟩

/-- `realloc` is refused exactly when the pointer is not the most recent block, that block has been
freed (`top ≤ last`), or the rounded size does not fit between the block's start and the end of
the buffer. -/
theorem bump_realloc_fail_iff {s : State} (hi : Inv s) {off n : Nat} (hn : n < W) :
    (realloc s off n).2 = none ↔
      off ≠ s.last ∨ s.top ≤ s.last ∨ s.cap < s.last + ru8 (if n = 0 then 1 else n) := by
  have _ := hn  -- not needed, as for `malloc`
  rw [realloc_eq hi.cap_lt, ← idealSize_def]
  split <;> simp [*]

/-- For a block that is live (the API's contract for `realloc`) the refusal condition is the
documented one: not the most recent block, or the rounded size does not fit. -/
theorem bump_realloc_live_fail_iff {s : State} (hi : Inv s) {b : Block} (hb : b ∈ s.live) {n : Nat} (hn : n < W) :
    (realloc s b.off n).2 = none ↔ b.off ≠ s.last ∨ s.cap < s.last + ru8 (if n = 0 then 1 else n) := by
  rw [bump_realloc_fail_iff hi hn]
  -- a live block starts below the top: if it is the most recent one, that one has not been freed
  have := (hi.blk_top hb).2
  omega

/-- Freeing the most recent block makes its space available again: the top, where `malloc` places
the next block, returns to the block's start. -/
theorem bump_free_last_reclaims {s : State} (hi : Inv s) {b : Block} (hb : b ∈ s.live)
    (hl : b.off = s.last) : (free s b.id).top = b.off ∧ (free s b.id).last = b.off := by
  unfold free
  rw [find?_live hi.ids hb]
  simp [hl]

/-- Once the most recent block has been freed it can no longer be resized: `realloc` of its
address is refused (whatever the size) and changes nothing, until the next allocation. -/
theorem bump_realloc_after_free_refused {s : State} (hi : Inv s) {b : Block} (hb : b ∈ s.live)
    (hl : b.off = s.last) (n : Nat) :
    realloc (free s b.id) b.off n = (free s b.id, none) := by
  obtain ⟨ht, hla⟩ := bump_free_last_reclaims hi hb hl
  unfold realloc
  rw [if_pos (.inr (by omega))]

/-- Nor can anything be resized on a fresh allocator. -/
theorem bump_realloc_fresh_refused (base cap off n : Nat) :
    realloc (init base cap) off n = (init base cap, none) := by
  unfold realloc
  rw [if_pos (.inr (Nat.le_refl _))]

/-- `aligned_alloc`: a granted block is aligned as requested (and to 8), inside the buffer and
disjoint from every live block. -/
theorem bump_aligned_alloc_sound {s s' : State} (hi : Inv s) {a n off : Nat}
    (ha : 0 < a) (h8 : 8 ∣ a) (haW : a < W)
    (h : alignedAlloc s a n = (s', some off)) :
    (s.base + off) % a = 0 ∧ (s.base + off) % 8 = 0 ∧ off + n ≤ s.cap ∧
    ∀ b ∈ s.live, b.off + b.size ≤ off ∧ b.off < off := by
  rcases alignedAlloc_cases hi ha h8 haW n with h' | ⟨d, s'', hd, hi', hm, h'⟩
  · rw [h'] at h; cases h
  · rw [h'] at h; cases h
    have hs := bump_malloc_sound hi' hm
    refine ⟨Nat.add_assoc .. ▸ Nat.mod_eq_zero_of_dvd hd, hs.1, hs.2.1, fun b hb => ?_⟩
    have := hi.blk_top hb
    omega

-- non-vacuity: an unaligned buffer, refused huge requests, a granted one, a valid history that
-- frees its last block
example : (init 0x1003 64).top = 5 := by decide
example : (malloc (init 0x1003 64) (2 ^ 64 - 3)).2 = none := by decide
example : (calloc (init 0x1000 64) (2 ^ 63) 4).2 = none := by decide
example : (malloc (init 0x1003 64) 3).2 = some 5 := by decide

example :
    ValidHistory (init 0x1003 64)
      [.malloc 3, .realloc 1 20, .aalloc 16 16, .free 2, .malloc 0] := by
  simp only [ValidHistory, Req.Valid]
  decide

end Zix.C09

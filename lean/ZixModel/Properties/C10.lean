import ZixModel.Model.Path
import ZixModel.Spec.Cpp17Path
import ZixModel.Lemmas.PathDecomp
import ZixModel.Generated.CharClass
/-! # C10 — path decomposition and queries follow the C++17 filesystem::path model

Strings are NUL-free byte lists (`0 ∉ s`): C strings.  Four statements carry that hypothesis without
need; their proofs say `have _ := h0`. -/
namespace Zix.C10
open Zix.Path Zix.Path.Dec

/-- Every returned view is a slice of the input: `begin ≤ end ≤ length`. -/
theorem views_are_slices (s : List Nat) (h0 : 0 ∉ s) :
    ∀ r ∈ [rootDirRange s, rootPathRange s, relativeRange s, parentRange s, filenameRange s,
        stemRange s, extensionRange s],
      r.1 ≤ r.2 ∧ r.2 ≤ s.length := by
  have _ := h0
  have hk := leadingSeps_le s
  have hroot : (rootDirRange s).1 ≤ (rootDirRange s).2 ∧ (rootDirRange s).2 ≤ s.length := by
    rw [Scan.rootDirRange_eq]
    simp only
    omega
  have hname :
      (∀ r ∈ [filenameRange s, stemRange s, extensionRange s], r.1 ≤ r.2 ∧ r.2 ≤ s.length) := by
    rcases stem_ext_eq s with ⟨h1, h2, h3⟩ | ⟨g, d, _, _, hn, hs, he, _⟩
    · rw [h1, h2, h3]; simp
    · rw [hn, hs, he]
      simp
      omega
  simp only [List.mem_cons, List.not_mem_nil, or_false, forall_eq_or_imp, forall_eq] at hname
  intro r hr
  simp only [List.mem_cons, List.not_mem_nil, or_false] at hr
  rcases hr with rfl | rfl | rfl | rfl | rfl | rfl | rfl
  · exact hroot
  · exact hroot
  · rw [relativeRange_eq]
    simp only
    omega
  · exact parentRange_bounds s
  · exact hname.1
  · exact hname.2.1
  · exact hname.2.2

/-- `has_X` is true exactly when X is non-empty (the harness's order: root_path, root_name,
root_directory, relative_path, parent_path, filename, stem, extension), and is_absolute. -/
theorem has_iff_nonempty (s : List Nat) (h0 : 0 ∉ s) :
    queries s = [ decide (slice s (rootPathRange s) ≠ []), false, decide (slice s (rootDirRange s) ≠ []),
                  decide (slice s (relativeRange s) ≠ []), decide (slice s (parentRange s) ≠ []),
                  decide (slice s (filenameRange s) ≠ []), decide (slice s (stemRange s) ≠ []),
                  decide (slice s (extensionRange s) ≠ []), decide (s.head? = some sep) ] := by
  have hv := views_are_slices s h0
  simp only [List.mem_cons, List.not_mem_nil, or_false, forall_eq_or_imp, forall_eq] at hv
  obtain ⟨h1, h2, _, h4, h5, h6, h7⟩ := hv
  unfold queries
  rw [not_isEmpty_eq s _ h1.1 h1.2, not_isEmpty_eq s _ h2.1 h2.2, not_isEmpty_eq s _ h4.1 h4.2,
    not_isEmpty_eq s _ h5.1 h5.2, not_isEmpty_eq s _ h6.1 h6.2, not_isEmpty_eq s _ h7.1 h7.2,
    hasRelative_eq s h0, isAbsolute_eq]

/-- filename is stem followed by extension, and the two views are adjacent inside the filename
view. -/
theorem filename_eq_stem_append_extension (s : List Nat) (h0 : 0 ∉ s) :
    slice s (filenameRange s) = slice s (stemRange s) ++ slice s (extensionRange s) ∧
    (¬ (filenameRange s).isEmpty → (stemRange s).1 = (filenameRange s).1 ∧
      ((extensionRange s).isEmpty ∨
        ((stemRange s).2 = (extensionRange s).1 ∧
          (extensionRange s).2 = (filenameRange s).2))) := by
  have _ := h0
  refine ⟨slice_filename_split s, fun hne => ?_⟩
  rcases stem_ext_eq s with ⟨h1, _, _⟩ | ⟨g, d, _, _, hn, hs, he, _⟩
  · rw [h1] at hne; exact absurd rfl hne
  · rw [hn, hs, he]; exact ⟨rfl, Or.inr ⟨rfl, rfl⟩⟩

/-- Names and the relative path are textually what the C++17 rules give. -/
theorem decomp_text_eq_cpp17 (s : List Nat) (h0 : 0 ∉ s) :
    slice s (filenameRange s) = PathSpec.filename s ∧
    slice s (stemRange s) = PathSpec.stem s ∧
    slice s (extensionRange s) = PathSpec.extension s ∧
    slice s (relativeRange s) = PathSpec.relativeText s := by
  have _ := h0
  exact ⟨slice_filenameRange s, slice_stemRange s, slice_extensionRange s, slice_relativeRange s⟩

/-- Root directory, root path and parent path denote the same path as the C++17 rules give
(same root flag and same element sequence; zix takes the last separator of a repeated root). -/
theorem root_parent_same_path (s : List Nat) (h0 : 0 ∉ s) :
    slice s (rootDirRange s) = PathSpec.rootDirText s ∧
    slice s (rootPathRange s) = PathSpec.rootDirText s ∧
    PathSpec.parse (slice s (parentRange s)) = PathSpec.parent s := by
  have _ := h0
  exact ⟨slice_rootDirRange s, slice_rootDirRange s, parse_slice_parentRange s⟩

/-- `zix_path_is_absolute` on POSIX: exactly the paths with a root directory (`zix_path_is_relative`
is its negation in path.c and has no function of its own in the model). -/
theorem is_absolute_iff (s : List Nat) : isAbsolute s = (PathSpec.parse s).root := by
  cases s <;> rfl

/-- `zix_path_preferred` is the identity on POSIX (the only separator is the preferred one). -/
theorem preferred_id_posix (s : List Nat) : preferred s = s :=
  Scan.preferred_eq s

-- "//a/b.c.d"
example :
    slice [47, 47, 97, 47, 98, 46, 99, 46, 100]
      (extensionRange [47, 47, 97, 47, 98, 46, 99, 46, 100]) = [46, 100] := by decide
example : parentRange [47, 47, 97, 47, 98, 46, 99, 46, 100] = (1, 3) := by decide

/-- The separator class is the code's: `Generated/CharClass.lean` lists the bytes `is_dir_sep` of
the current src/path.c accepts (regenerated on every run by compiling it); the model's `isSep` is
that set, for every byte value. -/
theorem isSep_is_the_codes (c : Nat) (h : c < 256) : Zix.Path.isSep c = Zix.Generated.dirSeps.contains c := by
  have _ := h  -- holds of every `c`
  rw [Bool.eq_iff_iff]
  simp only [Zix.Path.isSep, Zix.Path.sep, Zix.Generated.dirSeps, List.contains_iff_mem,
    List.mem_singleton, beq_iff_eq]

end Zix.C10

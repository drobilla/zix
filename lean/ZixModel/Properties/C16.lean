import ZixModel.Spec.Env
import ZixModel.Lemmas.Env
import ZixModel.Generated.CharClass
/-! # C16 — environment expansion substitutes exactly the references and copies the rest

`expand` is the C scanner with its indices and a fuel argument; `spec` is the token-level
specification. -/
namespace Zix.C16
open Zix.Env

/-- The empty string expands to the empty string (not to NULL). -/
theorem expand_empty (env : List (List Nat)) : expand env [] = some [] := by
  simp [expand, loop, at']

/-- The scanner computes exactly the specified expansion, for every string and environment. -/
theorem expand_eq_spec (env : List (List Nat)) (str : List Nat) (h : 0 ∉ str) :
    expand env str = some (spec env str) := by
  simpa [expand, spec, endsDelim] using
    loop_append env (str.length + 1) [] str 0 [] h (Nat.le_refl _) (Nat.lt_succ_self _)

/-- The scanner terminates on every NUL-free string in every environment: the fuel
`length + 1` that `expand` passes always suffices. -/
theorem expand_terminates (env : List (List Nat)) (str : List Nat) (h : 0 ∉ str) :
    (expand env str).isSome := by
  rw [expand_eq_spec env str h]; rfl

/-- Text without `$` and `~` is copied unchanged. -/
theorem spec_plain (env : List (List Nat)) (str : List Nat) (h1 : 36 ∉ str) (h2 : 126 ∉ str) :
    spec env str = str := by
  have := specFrom_plain env true str [] h1 h2
  simpa [spec, specFrom] using this

/-- A `$NAME` reference whose variable is set is replaced by the value, verbatim (the value is
not rescanned), and scanning continues after the longest name. -/
theorem spec_ref_set (env : List (List Nat)) (b : Bool) (name post v : List Nat)
    (hne : name ≠ []) (hn : ∀ c ∈ name, isVarChar c = true) (hp : isVarChar (post.headD 0) = false)
    (hv : findEnv env name = some v) :
    specFrom env b (36 :: (name ++ post)) = v ++ specFrom env false post := by
  rw [specFrom_ref env b name post hne hn hp]
  simp [varText, hv]

/-- A reference to an unset variable is left as written. -/
theorem spec_ref_unset (env : List (List Nat)) (b : Bool) (name post : List Nat)
    (hne : name ≠ []) (hn : ∀ c ∈ name, isVarChar c = true) (hp : isVarChar (post.headD 0) = false)
    (hv : findEnv env name = none) :
    specFrom env b (36 :: (name ++ post)) = 36 :: name ++ specFrom env false post := by
  rw [specFrom_ref env b name post hne hn hp]
  simp [varText, hv]

/-- A `$` not followed by a name character (lowercase, brace, end of string …) is copied. -/
theorem spec_dollar_literal (env : List (List Nat)) (b : Bool) (post : List Nat)
    (hp : isVarChar (post.headD 0) = false) :
    specFrom env b (36 :: post) = 36 :: specFrom env false post := by
  rw [specFrom]
  simp only [hp, Bool.false_eq_true, and_false, if_false]
  simp [isPathDelim]

/-- A `~` that stands alone as a path component — the start of the string or a delimiter before
it, the end of the string, `/` or `:` after it — is replaced by HOME's value when HOME is set. -/
theorem spec_tilde_expands (env : List (List Nat)) (post v : List Nat)
    (hp : post = [] ∨ post.headD 0 = 47 ∨ post.headD 0 = 58)
    (hv : findEnv env homeName = some v) :
    specFrom env true (126 :: post) = v ++ specFrom env false post := by
  have hd : isPathDelim (post.headD 0) = true := by
    rcases hp with hp | hp | hp
    · subst hp; decide
    · rw [hp]; decide
    · rw [hp]; decide
  rw [specFrom_tilde, if_pos ⟨hd, rfl⟩]
  simp [homeText, hv]

/-- The same at string level: plain text that is empty or ends in `/` or `:`, then `~`, then the
end of the string or a delimiter. -/
theorem spec_tilde_component (env : List (List Nat)) (pre post v : List Nat)
    (h1 : 36 ∉ pre) (h2 : 126 ∉ pre) (hpre : endsDelim true pre = true)
    (hp : post = [] ∨ post.headD 0 = 47 ∨ post.headD 0 = 58)
    (hv : findEnv env homeName = some v) :
    spec env (pre ++ 126 :: post) = pre ++ v ++ specFrom env false post := by
  rw [spec, specFrom_plain env true pre _ h1 h2, hpre, spec_tilde_expands env post v hp hv]
  simp

/-- With HOME unset a lone `~` stays as written. -/
theorem spec_tilde_home_unset (env : List (List Nat)) (b : Bool) (post : List Nat)
    (hv : findEnv env homeName = none) :
    specFrom env b (126 :: post) = 126 :: specFrom env false post := by
  rw [specFrom_tilde]
  split
  · simp [homeText, hv]
  · rfl

/-- A `~` directly followed by any other character is never expanded. -/
theorem spec_tilde_before_other (env : List (List Nat)) (b : Bool) (c : Nat) (post : List Nat)
    (hc : c ≠ 47 ∧ c ≠ 58 ∧ c ≠ 0) :
    specFrom env b (126 :: c :: post) = 126 :: specFrom env false (c :: post) := by
  have hd : isPathDelim c = false := by
    simp [isPathDelim, hc.1, hc.2.1, hc.2.2]
  rw [specFrom_tilde, if_neg (by simp [hd])]

/-- A `~` directly preceded by anything but a delimiter (plain text as in `a-~/b`, or the end of a
reference as in `$X~`) is copied, whatever follows it. -/
theorem spec_tilde_after_other (env : List (List Nat)) (post : List Nat) :
    specFrom env false (126 :: post) = 126 :: specFrom env false post := by
  rw [specFrom_tilde, if_neg (by simp)]

/-- The same at string level: plain text ending in a byte that is not a delimiter, then `~`. -/
theorem spec_tilde_glued (env : List (List Nat)) (pre post : List Nat)
    (h1 : 36 ∉ pre) (h2 : 126 ∉ pre) (hpre : endsDelim true pre = false) :
    spec env (pre ++ 126 :: post) = pre ++ 126 :: specFrom env false post := by
  rw [spec, specFrom_plain env true pre _ h1 h2, hpre, spec_tilde_after_other]

/-- `find_env` returns the value of the first `NAME=value` entry with exactly that name. -/
theorem findEnv_first (pre post : List (List Nat)) (name v : List Nat) (hname : 61 ∉ name)
    (hpre : ∀ e ∈ pre, ¬(e.take name.length = name ∧ at' e name.length = 61)) :
    findEnv (pre ++ (name ++ 61 :: v) :: post) name = some v := by
  have _ := hname  -- not needed: the entry `name ++ '=' :: v` matches whatever `name` contains
  induction pre with
  | nil =>
    simp [findEnv, at']
  | cons e rest ih =>
    have he := hpre e (by simp)
    simp only [List.cons_append, findEnv, he, if_false]
    exact ih (fun e' he' => hpre e' (by simp [he']))

/-! `Generated/CharClass.lean` lists the byte values that `is_var_name_char` / `is_path_delim` of
the current source accept (obtained by compiling the source and calling them on all 256 values);
the model's predicates are the same sets, for every byte. -/

theorem varNameChars_eq :
    Zix.Generated.varNameChars = List.range' 48 10 ++ List.range' 65 26 ++ [95] := by decide

theorem isVarChar_is_the_codes (c : Nat) (h : c < 256) :
    isVarChar c = Zix.Generated.varNameChars.contains c := by
  rw [Bool.eq_iff_iff, varNameChars_eq]
  simp only [isVarChar, List.contains_iff_mem, List.mem_append, List.mem_range'_1,
    List.mem_singleton, Bool.or_eq_true, Bool.and_eq_true, decide_eq_true_eq, beq_iff_eq]
  omega

theorem isPathDelim_is_the_codes (c : Nat) (h : c < 256) :
    isPathDelim c = Zix.Generated.pathDelims.contains c := by
  rw [Bool.eq_iff_iff]
  simp only [isPathDelim, Zix.Generated.pathDelims, List.contains_iff_mem, List.mem_cons,
    List.not_mem_nil, or_false, Bool.or_eq_true, beq_iff_eq]
  omega

-- "a$X:~/b$Y" with X=1, HOME=/h, Y unset
example : expand [[88, 61, 49], [72, 79, 77, 69, 61, 47, 104]] [97, 36, 88, 58, 126, 47, 98, 36, 89]
    = some [97, 49, 58, 47, 104, 47, 98, 36, 89] := by decide
-- "a-~/b" and "$X~" (X=1) with HOME=/h: the '~' is not a component of its own
example : expand [[88, 61, 49], [72, 79, 77, 69, 61, 47, 104]] [97, 45, 126, 47, 98]
    = some [97, 45, 126, 47, 98] := by decide
example : expand [[88, 61, 49], [72, 79, 77, 69, 61, 47, 104]] [36, 88, 126]
    = some [49, 126] := by decide
-- "~:~" with HOME unset stays, with HOME=/h both are replaced
example : expand [[88, 61, 49]] [126, 58, 126] = some [126, 58, 126] := by decide
example : expand [[72, 79, 77, 69, 61, 47, 104]] [126, 58, 126]
    = some [47, 104, 58, 47, 104] := by decide
example : endsDelim true [97, 47] = true ∧ endsDelim true [97, 45] = false := by decide

end Zix.C16

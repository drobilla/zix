import ZixModel.Properties.C06History
import ZixModel.Spec.AvlAlloc
import ZixModel.Lemmas.AllocLog
/-! # C08 for ZixTree: every block obtained from the caller's allocator is released exactly once

Over EVERY history of insert (succeeding, refused by the allocator, or refused as duplicate), remove
and find, followed by `zix_tree_free`. -/
namespace Zix.C08Avl
open Zix.Avl Zix.C06

section
open Zix.AllocLog

theorem allocs_nil : allocs [] = [] := rfl

theorem allocs_alloc (b : Nat) (es : List AEv) : allocs (.alloc b :: es) = b :: allocs es := rfl

theorem allocs_refused (es : List AEv) : allocs (.refused :: es) = allocs es := rfl

theorem allocs_free (b : Nat) (es : List AEv) : allocs (.free b :: es) = allocs es := rfl

theorem frees_nil : frees [] = [] := rfl

theorem frees_alloc (b : Nat) (es : List AEv) : frees (.alloc b :: es) = frees es := rfl

theorem frees_refused (es : List AEv) : frees (.refused :: es) = frees es := rfl

theorem frees_free (b : Nat) (es : List AEv) : frees (.free b :: es) = b :: frees es := rfl

theorem allocs_append (a b : List AEv) : allocs (a ++ b) = allocs a ++ allocs b :=
  List.filterMap_append

theorem frees_append (a b : List AEv) : frees (a ++ b) = frees a ++ frees b :=
  List.filterMap_append

/-- The events read as the `Act`s of `Lemmas/AllocLog.lean`, where the theory of well-formed logs
is. -/
def act : AEv → Act
  | .alloc b => .alloc b
  | .refused => .refused
  | .free b => .free b

theorem allocs_eq (es : List AEv) : allocs es = AllocLog.allocs (es.map act) := by
  rw [AllocLog.allocs, List.filterMap_map]
  exact congrArg (List.filterMap · es) (funext fun e => by cases e <;> rfl)

theorem frees_eq (es : List AEv) : frees es = AllocLog.frees (es.map act) := by
  rw [AllocLog.frees, List.filterMap_map]
  exact congrArg (List.filterMap · es) (funext fun e => by cases e <;> rfl)

/-- The blocks a tree holds: the header and the nodes of the stored elements. -/
def blocks (t : Tree) : List Nat := 1 :: t.root.inorder.map (fun p => p.1 + 1)

theorem step_log (t : Tree) (h : TreeInv t) (op : Op) :
    Log (blocks t) (t.next + 1) ((evOf op (treeStep t op).2).map act)
      (blocks (treeStep t op).1) ((treeStep t op).1.next + 1) := by
  have same : Log (blocks t) (t.next + 1) [] (blocks t) (t.next + 1) := ⟨.refl _, rfl⟩
  cases op with
  | ins e =>
    rcases insertAux_cases t h e with ⟨i, hx, _⟩ | ⟨r, g, hres, _, hI⟩
    · rw [treeStep_ins_exists hx]; exact same
    · rw [treeStep_ins_done hres]
      refine ⟨rfl, ?_, rfl⟩
      show ((t.next + 1) :: blocks t).Perm (1 :: r.inorder.map _)
      rw [hI]
      have hp := (listInsert_perm e t.next t.root.inorder).map (fun p => p.1 + 1)
      exact (List.Perm.swap _ _ _).trans (hp.symm.cons 1)
  | insFail e =>
    cases hx : insertAux t.dups e t.next t.root with
    | exists_ i => rw [treeStep_insFail_exists hx]; exact same
    | done r g => rw [treeStep_insFail_done hx]; exact same
  | rm id =>
    by_cases hin : id ∈ t.root.inorder.map (·.1)
    · obtain ⟨p, pre, k, post, hres, hT, hI, _⟩ := removeId_spec id t.root hin
      rw [treeStep_rm_some (r := p.1) (s := p.2) hres]
      have hp' :
          (blocks t).Perm ((id + 1) :: blocks { t with root := p.1, size := t.size - 1 }) := by
        show (1 :: t.root.inorder.map _).Perm ((id + 1) :: 1 :: p.1.inorder.map _)
        rw [hT, hI, List.map_append, List.map_append]
        exact (List.perm_middle.cons 1).trans (List.Perm.swap _ _ _)
      exact ⟨hp'.mem_iff.2 List.mem_cons_self, by simpa using hp'.erase (id + 1), rfl⟩
    · rw [treeStep_rm_none (remove_absent t.root id hin)]; exact same
  | find e => rw [treeStep_find_fst]; exact same

theorem run_log (ops : List Op) : ∀ (t : Tree), TreeInv t →
    Log (blocks t) (t.next + 1) ((runEvents t ops).2.map act)
      (blocks (runEvents t ops).1) ((runEvents t ops).1.next + 1) := by
  intro t h
  fun_induction runEvents t ops with
  | case1 => exact ⟨.refl _, rfl⟩
  | case2 t op rest r r2 ih =>
    rw [List.map_append]
    exact (step_log t h op).append (ih (step_refines t h op).2.2)

theorem free_log (t : Tree) (n : Nat) : Log (blocks t) n ((freeEvents t).map act) [] n := by
  have : ∀ l : List (Nat × Int),
      Log (l.map (·.1 + 1) ++ [1]) n
        ((l.map (fun p => AEv.free (p.1 + 1)) ++ [AEv.free 1]).map act) [] n := by
    intro l
    induction l with
    | nil => exact ⟨List.mem_cons_self, .refl _, rfl⟩
    | cons p l ih => exact ⟨List.mem_cons_self, by simpa using ih⟩
  exact (this t.root.postorder).perm
    ((List.perm_append_singleton 1 _).trans (((postorder_perm_inorder t.root).map _).cons 1))

theorem alive_log (d : Bool) (ops : List Op) :
    Log [] 1 ((newEvents ++ (runEvents (Tree.new d) ops).2).map act)
      (blocks (runEvents (Tree.new d) ops).1) ((runEvents (Tree.new d) ops).1.next + 1) := by
  rw [List.map_append]
  exact Log.append (M := [1]) (m := 2) ⟨rfl, .refl _, rfl⟩ (run_log ops (Tree.new d) (inv_new d))

theorem lifecycle_log (d : Bool) (ops : List Op) :
    Log [] 1 ((lifecycle d ops).map act) [] ((runEvents (Tree.new d) ops).1.next + 1) := by
  show Log _ _ ((newEvents ++ _ ++ freeEvents _).map act) _ _
  rw [List.map_append]
  exact (alive_log d ops).append (free_log _ _)

end

/-- Exactly once: no block is obtained twice, and the released blocks are exactly the obtained ones,
each once. -/
theorem avl_lifecycle_balanced (d : Bool) (ops : List Op) :
    (allocs (lifecycle d ops)).Nodup ∧ (frees (lifecycle d ops)).Perm (allocs (lifecycle d ops)) := by
  rw [allocs_eq, frees_eq]
  exact (lifecycle_log d ops).exactly_once

/-- Order: at the moment a block is released it has been obtained and not yet released (no release
of a foreign block, no double release). -/
theorem avl_free_after_alloc (d : Bool) (ops : List Op) (pre post : List AEv) (b : Nat)
    (h : lifecycle d ops = pre ++ AEv.free b :: post) : b ∈ allocs pre ∧ b ∉ frees pre := by
  have hl := lifecycle_log d ops
  rw [h, List.map_append] at hl
  rw [allocs_eq, frees_eq]
  exact hl.free_after_alloc

/-- While the tree is alive (before free) the outstanding blocks are exactly the header and the
nodes of the stored elements. -/
theorem avl_outstanding (d : Bool) (ops : List Op) :
    let r := runEvents (Tree.new d) ops
    ((frees r.2) ++ 1 :: r.1.root.inorder.map (fun (p : Nat × Int) => p.1 + 1)).Perm (allocs (newEvents ++ r.2)) := by
  intro r
  have h := (alive_log d ops).balance
  rw [← allocs_eq, ← frees_eq] at h
  exact h

/-- A refused allocation changes nothing. -/
theorem avl_refused_unchanged (t : Tree) (e : Int) (h : (treeStep t (.insFail e)).2 = .noMem) :
    (treeStep t (.insFail e)).1 = t := by
  -- not needed: an insertion without memory leaves the tree alone also when it reports EXISTS
  have _ := h
  cases hx : insertAux t.dups e t.next t.root with
  | exists_ i => rw [treeStep_insFail_exists hx]
  | done r g => rw [treeStep_insFail_done hx]

example : lifecycle false [.ins 5, .ins 3, .ins 5, .insFail 9, .ins 8, .rm 1] =
    [.alloc 1, .alloc 2, .alloc 3, .refused, .alloc 4, .free 2, .free 3, .free 4, .free 1] := by decide

end Zix.C08Avl

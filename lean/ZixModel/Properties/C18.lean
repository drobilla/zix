import ZixModel.Model.Thread
import ZixModel.Lemmas.Errno
/-! # C18 — threads: function once, requested stack, join synchronises

The theorems cover zix's argument plumbing and status mapping composed with an ASSUMED pthread
semantics (`platformCreate`); the behaviour of real threads is observed by the harness.  Of
`zix_thread_join` only the status mapping is proved (`join_status`); when it returns is the
platform's. -/
namespace Zix.C18
open Zix.Thread Zix.Errno

/-- The attribute handed to `pthread_create` is the one that was given the stack size — for every
requested size — and it is initialised before and destroyed after. -/
theorem create_passes_requested_stack (size : Nat) (ret : Int) :
    (threadCreate size ret).1 =
      [.attrInit, .attrSetStackSize (attrSize size), .create (some (attrSize size)), .attrDestroy] := rfl

theorem le_roundUp (s : Nat) {p : Nat} (hp : 0 < p) : s ≤ (s + p - 1) / p * p := by
  have := Nat.div_add_mod (s + p - 1) p
  have := Nat.mod_lt (s + p - 1) hp
  rw [Nat.mul_comm]
  omega

/-- The size passed on is never below the request. -/
theorem attrSize_ge (size : Nat) : attrSize size ≥ size := by
  fun_cases attrSize size with
  | case1 r h => exact h
  | case2 => exact Nat.le_refl _  -- rounding wrapped: the request itself

/-- It is a whole number of pages whenever rounding up does not wrap around (every request up to
2^64 - 4096). -/
theorem attrSize_pages (size : Nat) (h : size + pageUnit ≤ W) : attrSize size % pageUnit = 0 := by
  have hw : (size + pageUnit - 1) % W = size + pageUnit - 1 :=
    Nat.mod_eq_of_lt (by unfold pageUnit at *; omega)
  rw [attrSize, hw, if_pos (le_roundUp size (by decide))]
  exact Nat.mul_mod_left _ _

/-- Hence, on a platform that rounds an attribute's size DOWN to whole pages (as glibc does), the
new thread's stack is at least the requested size — also for requests that are not a multiple of
the page size — and the function runs exactly once with the given argument. -/
theorem create_runs_once_on_requested_stack (size arg defaultStack : Nat) (h : size + pageUnit ≤ W) :
    ∀ c ∈ (threadCreate size 0).1, ∀ a, c = .create a →
      (platformCreate defaultStack a arg).stack ≥ size ∧ (platformCreate defaultStack a arg).ran = 1 ∧
      (platformCreate defaultStack a arg).arg = arg := by
  intro c hc a hca
  subst hca
  have ha : a = some (attrSize size) := by
    simpa only [threadCreate, List.mem_cons, List.not_mem_nil, reduceCtorEq, PCall.create.injEq,
      false_or, or_false] using hc
  subst ha
  refine ⟨?_, rfl, rfl⟩
  show attrSize size / pageUnit * pageUnit ≥ size
  rw [Nat.div_mul_cancel (Nat.dvd_of_mod_eq_zero (attrSize_pages size h))]
  exact attrSize_ge size

/-- Passing the request on unrounded (as before the repair) is not enough on such a platform. -/
theorem unrounded_request_falls_short :
    (platformCreate 0 (some 100000) 0).stack < 100000 := by decide

/-- SUCCESS is reported exactly when `pthread_create` returned 0: a thread that could not be created
is an error. -/
theorem create_error_reported (size : Nat) (ret : Int) : (threadCreate size ret).2 = 0 ↔ ret = 0 :=
  Zix.Errno.errnoStatus_eq_zero_iff ret

theorem join_status (ret : Int) : threadJoin ret = 0 ↔ ret = 0 := by
  unfold threadJoin; split <;> simp_all

example : (threadCreate 33554432 11).2 = 11 := by decide   -- EAGAIN → UNAVAILABLE
example : attrSize 100000 = 102400 ∧ attrSize 16384 = 16384 ∧ attrSize 0 = 0 := by decide

end Zix.C18

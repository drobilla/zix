import ZixModel.Model.RingRA
import ZixModel.Lemmas.RingRA
import ZixModel.Model.RingRAX
/-! # C04 — the ring is a correct single-producer/single-consumer channel on every schedule

The theorems quantify over every ring size `n > 0`, every sequence of writer-side calls used as
the API intends (`wfCalls`), every sequence of reader-side calls, and EVERY schedule: every
interleaving of the two threads at every shared-memory access and every value (fresh or stale)
an acquire load may return; `spsc_wait_free` needs neither `n > 0` nor `wfCalls`. -/
namespace Zix.C04
open Zix.RingRA

/-- The memory orders compiled into ring.c (`Generated/RingOrders.lean`, regenerated on every run
from the instrumented object code) are the ones the machine of `Model/RingRA.lean` assumes: every
load of the peer's head is at least acquire and every store of the own head at least release.  When
this stops checking, the C04 check searches `Model/RingRAX.lean` with the observed orders for a racy
schedule. -/
theorem ring_orders_as_proved : Zix.RingRAX.Orders.observed = Zix.RingRAX.Orders.proved := by decide

/-- No execution contains a data race: every plain buffer access is ordered (through a
release/acquire pair) with the conflicting access of the other thread. -/
theorem spsc_race_free (n : Nat) (hn : 0 < n) (wcalls : List WCall) (rcalls : List RCall)
    (hw : wfCalls false wcalls = true) (sched : List Choice) :
    (run (init n wcalls rcalls) sched).race = false :=
  (Inv.reachable hn rcalls hw sched).noRace

/-- Every successful read or peek delivers exactly the committed bytes at the reader's position:
nothing torn, reordered, duplicated, or visible before its commit. -/
theorem spsc_deliveries_are_committed (n : Nat) (hn : 0 < n) (wcalls : List WCall) (rcalls : List RCall)
    (hw : wfCalls false wcalls = true) (sched : List Choice) :
    let s := run (init n wcalls rcalls) sched
    ∀ d ∈ s.deliveries, d.1 + d.2.length ≤ s.committedBytes.length ∧
      d.2 = (s.committedBytes.drop d.1).take d.2.length :=
  (Inv.reachable hn rcalls hw sched).dels

/-- With only `read` and `peek` calls on the reader side (no skip), the concatenated output is a
prefix of the concatenated committed writes. -/
theorem spsc_prefix (n : Nat) (hn : 0 < n) (wcalls : List WCall) (rcalls : List RCall)
    (hw : wfCalls false wcalls = true) (hr : ∀ c ∈ rcalls, ∃ k, c = .read k ∨ c = .peek k) (sched : List Choice) :
    (run (init n wcalls rcalls) sched).output <+: (run (init n wcalls rcalls) sched).committedBytes := by
  rw [output_eq_take hn hw (fun c hc => by obtain ⟨k, rfl | rfl⟩ := hr c hc <;> rfl) sched]
  exact List.take_prefix _ _

/-- Nothing is lost: the reader never consumes past what is committed, the committed count is the
number of committed bytes, and every committed byte not yet consumed sits in its cell. -/
theorem spsc_contents (n : Nat) (hn : 0 < n) (wcalls : List WCall) (rcalls : List RCall)
    (hw : wfCalls false wcalls = true) (sched : List Choice) :
    let s := run (init n wcalls rcalls) sched
    s.r.consumed ≤ s.w.committed ∧ s.w.committed = s.committedBytes.length ∧ s.w.committed - s.r.consumed ≤ n - 1 ∧
    ∀ p, s.r.consumed ≤ p → p < s.w.committed → s.cells.getD (p % n) (0, 0) = (p, s.committedBytes.getD p 0) := by
  intro s
  have h : Inv s := Inv.reachable hn rcalls hw sched
  have hn' : s.n = n := run_n _ _
  have hocc := h.occ
  rw [hn'] at hocc
  refine ⟨h.consLe, h.cbLen.symm, by omega, fun p h1 h2 => ?_⟩
  rw [← hn']
  exact h.cell_committed h1 h2

/-- Once both sides are idle, the output of a reader that only reads is exactly the committed bytes
up to the consumed count: nothing lost, duplicated or reordered. -/
theorem spsc_quiescent_contents (n : Nat) (hn : 0 < n) (wcalls : List WCall) (rcalls : List RCall)
    (hw : wfCalls false wcalls = true) (hr : ∀ c ∈ rcalls, ∃ k, c = .read k) (sched : List Choice)
    (hidle : (run (init n wcalls rcalls) sched).idle = true) :
    let s := run (init n wcalls rcalls) sched
    s.output = s.committedBytes.take s.r.consumed := by
  intro s
  have ha : s.r.acts = [] := by
    simp only [St.idle, Bool.and_eq_true, List.isEmpty_iff] at hidle
    exact hidle.1.1.2
  have hout := output_eq_take hn hw (fun c hc => by obtain ⟨k, rfl⟩ := hr c hc; rfl) sched
  rwa [outEnd, ha] at hout

-- ORIGINAL (false as written: the bound ignores the call in flight, `pendingCall`, which has left
-- `calls` and is not yet expanded into `acts`; the `example` below is a reachable state where it
-- fails):
-- theorem spsc_wait_free (n : Nat) (wcalls : List WCall) (rcalls : List RCall)
--     (sched : List Choice) (fresh : Nat → Nat) :
--     let s := run (init n wcalls rcalls) sched
--     (let sw := run s ((List.range (wWork s.w.calls + s.w.acts.length + 2)).map
--         (fun i => ⟨.writer, fresh i⟩))
--      sw.w.calls = [] ∧ sw.w.acts = [] ∧ sw.w.pendingCall = none) ∧
--     (let sr := run s ((List.range (rWork s.r.calls + s.r.acts.length + 2)).map
--         (fun i => ⟨.reader, fresh i⟩))
--      sr.r.calls = [] ∧ sr.r.acts = [] ∧ sr.r.pendingCall = none)
-- CORRECTED: the call in flight is charged too, `wWork (s.w.pendingCall.toList ++ s.w.calls)` and
-- `rWork (s.r.pendingCall.toList ++ s.r.calls)`.  With no call in flight (in particular for
-- `sched = []`) this is the original bound.
/-- Neither side ever waits for the other: a thread's step never depends on the peer having made
progress — scheduling only one thread runs all of its calls to completion in a number of steps
bounded by its own work (`wWork`, `rWork`). -/
theorem spsc_wait_free (n : Nat) (wcalls : List WCall) (rcalls : List RCall) (sched : List Choice)
    (fresh : Nat → Nat) :
    let s := run (init n wcalls rcalls) sched
    -- from ANY reachable state, the writer alone finishes all its remaining work …
    (let sw := run s ((List.range (wWork (s.w.pendingCall.toList ++ s.w.calls) + s.w.acts.length + 2)).map
        (fun i => ⟨.writer, fresh i⟩))
     sw.w.calls = [] ∧ sw.w.acts = [] ∧ sw.w.pendingCall = none) ∧
    -- … and so does the reader alone
    (let sr := run s ((List.range (rWork (s.r.pendingCall.toList ++ s.r.calls) + s.r.acts.length + 2)).map
        (fun i => ⟨.reader, fresh i⟩))
     sr.r.calls = [] ∧ sr.r.acts = [] ∧ sr.r.pendingCall = none) :=
  -- the `+ 2` of the statement is slack: `writer_wait_free` / `reader_wait_free` ask for the work
  -- alone
  have hlen : ∀ (K : Nat) (g : Nat → Choice), K ≤ ((List.range (K + 2)).map g).length :=
    fun K g => by
      rw [List.length_map, List.length_range]
      exact Nat.le_add_right _ 2
  ⟨writer_wait_free (shape_reachable n wcalls rcalls sched).1 _ (fun _ => tid_of_mem_solo)
     (hlen _ _),
   reader_wait_free (shape_reachable n wcalls rcalls sched).2 _ (fun _ => tid_of_mem_solo)
     (hlen _ _)⟩

/-- The ORIGINAL bound of `spsc_wait_free` fails in a reachable state with a call in flight: after
three writer steps of `[begin_, amend [1,2,3]]` it is 0 + 0 + 2 steps, and the `amend` still needs
1 + 3. -/
example :
    let s := run (init 8 [.begin_, .amend [1, 2, 3]] []) [⟨.writer, 0⟩, ⟨.writer, 0⟩, ⟨.writer, 0⟩]
    let sw := run s ((List.range (wWork s.w.calls + s.w.acts.length + 2)).map
      (fun _ => (⟨.writer, 0⟩ : Choice)))
    s.w.calls.length = 0 ∧ s.w.acts.length = 0 ∧ s.w.pendingCall.isSome = true ∧
      sw.w.acts.length = 2 := by
  decide +kernel

/-! non-vacuity: stale loads, a transaction, both threads interleaved -/
example :
    let s := run (init 8 [.write [1, 2, 3], .begin_, .amend [4], .commit] [.read 2, .read 2])
      ((List.range 30).map (fun i => (⟨if i % 5 = 4 then .reader else .writer, i % 2⟩ : Choice)) ++
       (List.range 20).map (fun _ => (⟨.reader, 9⟩ : Choice)))
    s.race = false ∧ s.output = [1, 2, 3, 4] ∧ s.idle = true := by decide +kernel

end Zix.C04

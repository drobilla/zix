import ZixModel.Model.Fs
import ZixModel.Lemmas.Fs
import ZixModel.Lemmas.Errno
import ZixModel.Properties.C15Link
/-! # C15 — filesystem creation and queries report and produce the true state

File types, `zix_file_equals`, and `zix_create_directories` on the symlink-free tree of
`Model/Fs.lean`.  The create_directories clauses are those of C15Link, for the tree shown to be an
operating system in the sense of `OsLaws` (`plainTree_laws`). -/
namespace Zix.C15Link
open Zix.Path Zix.FsLink Zix.MkdirsWalk

/-- The walk over the symlink-free tree of `Model/Fs.lean` is this walk (`plainTree_laws` below
proves the laws for it). -/
theorem fs_createDirectories_eq (t : Zix.Fs.Tree) (s : List Nat) :
    Zix.Fs.createDirectories t s =
      createDirectoriesG (fun t p => decide (Zix.Fs.statKind t p = some .dir)) Zix.Fs.mkdir t s := by
  unfold Zix.Fs.createDirectories createDirectoriesG
  split
  · rfl
  · generalize (allFrames s).filter _ = fr
    induction fr generalizing t with
    | nil => rfl
    | cons f rest ih =>
      rw [Zix.Fs.createDirectories.go.eq_2, createDirectoriesG.go.eq_2]
      simp only [decide_eq_true_eq, ih]
      split
      · rfl
      · rcases Zix.Fs.mkdir t (s.take f.range.2) with ⟨t', _ | e⟩ <;> rfl

end Zix.C15Link

namespace Zix.C15
open Zix.Fs Zix.Generated Zix.Path

/-- Each S_IF* kind maps to its ZixFileType (regenerated table, by kernel evaluation), and a
failing stat to NONE. -/
theorem file_type_table :
    (sIFKinds.map (fun k => statFileType k.2)) = [1, 2, 3, 4, 5, 6, 7] ∧
    fileTypeNames =
      [("NONE", 0), ("REGULAR", 1), ("DIRECTORY", 2), ("SYMLINK", 3), ("BLOCK", 4),
        ("CHARACTER", 5), ("FIFO", 6), ("SOCKET", 7), ("UNKNOWN", 8)] ∧
    sIFKinds.map (·.1) = ["S_IFREG", "S_IFDIR", "S_IFLNK", "S_IFBLK", "S_IFCHR", "S_IFIFO", "S_IFSOCK"] ∧
    fileType none = 0 := by decide

/-- Any other kind of file (a mode whose S_IFMT bits are none of the seven) is UNKNOWN. -/
theorem file_type_other_unknown (mode : Nat) (h : (mode &&& sIFMT) ∉ sIFKinds.map (·.2)) :
    statFileType mode = 8 := by
  unfold statFileType
  have hm : fileTypeMap.map (·.1) = sIFKinds.map (·.2) := by decide
  have : fileTypeMap.find? (fun r => decide (r.1 = mode &&& sIFMT)) = none := by
    rw [List.find?_eq_none]
    intro r hr hdec
    have h1 : r.1 = mode &&& sIFMT := by simpa using hdec
    apply h
    rw [← hm, ← h1]
    exact List.mem_map_of_mem hr
  rw [this]; rfl

/-- The permission bits never matter. -/
theorem file_type_ignores_permissions (mode : Nat) : statFileType mode = statFileType (mode &&& sIFMT) := by
  unfold statFileType
  rw [Nat.and_assoc, Nat.and_self]

/-- For two files that could be opened and are not the same inode, the comparison is true exactly
when their bytes are identical, whenever each reported `st_size` is either the true length or zero
(procfs text files, FIFOs, devices: a reported zero says nothing) — for all contents, every positive
page size, and whether or not the pages could be allocated.  So an empty file never equals a procfs
file with content, and a procfs file equals its copy. -/
theorem file_equals_sized_iff_bytes (a b : List Nat) (sa sb page : Nat) (hp : 0 < page) (allocOk : Bool)
    (ha : sa = a.length ∨ sa = 0) (hb : sb = b.length ∨ sb = 0) :
    fileEqualsSized a b sa sb false page allocOk = decide (a = b) := by
  fun_cases fileEqualsSized a b sa sb false page allocOk with
  | case1 h => cases h  -- the same inode: excluded here
  | case2 _ hc =>  -- the sizes agree or one is zero: the pages are compared
    apply pagesEqual_eq _ _ _ _ _ (by omega)
    cases allocOk <;> simp [hp]
  | case3 _ hc =>
    -- the sizes differ and neither is zero: both are the lengths, so the contents differ
    have : a ≠ b := by
      intro h
      subst h
      apply hc
      rcases ha with ha | ha
      · rcases hb with hb | hb
        · left; omega
        · right
          right
          exact hb
      · right
        left
        exact ha
    simp [this]

/-- For two existing files that are not the same inode, `zix_file_equals` is true exactly when
their bytes are identical — for all contents, every positive page size, and whether or not the
pages could be allocated. -/
theorem file_equals_iff_bytes (a b : List Nat) (page : Nat) (hp : 0 < page) (allocOk : Bool) :
    fileEquals (some a) (some b) false page allocOk = decide (a = b) := by
  unfold fileEquals
  exact file_equals_sized_iff_bytes a b _ _ page hp allocOk (Or.inl rfl) (Or.inl rfl)

/-- The hypothesis of `file_equals_sized_iff_bytes` cannot be dropped: a file that reports a
non-zero size that is not its length (a sysfs attribute: `st_size` 4096, a few bytes of content)
compares unequal to an exact copy of itself — the reported sizes differ and neither is zero, so the
bytes are never looked at.  Recorded as a known finding (GNU `cmp -s` and `diff -q` behave the same
way); the check replays it on the real /sys file. -/
theorem file_equals_overreported_size_counterexample :
    fileEqualsSized [48, 10] [48, 10] 4096 2 false 4096 true = false := by decide

theorem file_equals_symm (a b : Option (List Nat)) (same : Bool) (page : Nat) (hp : 0 < page) (allocOk : Bool) :
    fileEquals a b same page allocOk = fileEquals b a same page allocOk := by
  cases a with
  | none => cases b <;> rfl
  | some ca =>
    cases b with
    | none => rfl
    | some cb =>
      cases same with
      | true => rfl
      | false =>
        rw [file_equals_iff_bytes ca cb page hp, file_equals_iff_bytes cb ca page hp]
        exact decide_eq_decide.2 eq_comm

/-- It is false when one of two different paths does not exist. -/
theorem file_equals_missing_false (a : Option (List Nat)) (same : Bool) (page : Nat) (allocOk : Bool) :
    fileEquals a none same page allocOk = false ∧ fileEquals none a same page allocOk = false := by
  constructor
  · cases a <;> rfl
  · cases a <;> rfl

/-- A tree in which every node's parent is a directory, nothing is listed twice, names are real
names (non-empty, no separator, no NUL, not "." or ".."), and the working directory is a directory. -/
structure TreeOK (t : Tree) : Prop where
  parents : ∀ p k, (p, k) ∈ t.nodes → p ≠ [] ∧ t.kindOf p.dropLast = some .dir
  names   : ∀ p k, (p, k) ∈ t.nodes → ∀ c ∈ p, c ≠ [] ∧ sep ∉ c ∧ 0 ∉ c ∧ c ≠ [dot] ∧ c ≠ [dot, dot]
  nodup   : (t.nodes.map (·.1)).Nodup
  cwdDir  : t.kindOf t.cwd = some .dir
  cwdNames : ∀ c ∈ t.cwd, c ≠ [] ∧ sep ∉ c ∧ 0 ∉ c ∧ c ≠ [dot] ∧ c ≠ [dot, dot]

theorem TreeOK.wf {t : Tree} (ht : TreeOK t) : TreeWF t :=
  ⟨ht.parents, ht.names, ht.nodup, ht.cwdDir, ht.cwdNames⟩

theorem mkdir_ok_dir_mono (t t' : Tree) (s : List Nat) (hm : Fs.mkdir t s = (t', none)) :
    statKind t' s = some .dir ∧ ∀ q, statKind t q = some .dir → statKind t' q = some .dir := by
  rw [mkdir_eq] at hm
  obtain ⟨pre, par, last, hcs, hpar, hpk, hl1, hl2, hnone, rfl⟩ := mkdirC_ok t t' _ _ hm
  refine ⟨?_, fun q hq => ?_⟩
  · rw [statKind_eq, hcs, statKindC_dir_iff]
    refine ⟨par ++ [last], ?_, lk_append_new _ (by simp) hnone⟩
    rw [resolveC_snoc, resolveC_addDir_mono t _ _ _ par hpar]
    have hpk' : (addDir t (par ++ [last])).kindOf par = some .dir := lk_append _ hpk
    simp [rstep, hpk', hl1, hl2]
  · rw [statKind_eq, statKindC_dir_iff] at hq ⊢
    obtain ⟨d, hd, hk⟩ := hq
    exact ⟨d, resolveC_addDir_mono t _ _ _ d hd, lk_append _ hk⟩

open Zix.C15Link in
/-- The symlink-free tree is an operating system in the sense of `OsLaws` (strings are read up to
their first NUL, as for `linkTree_laws`). -/
theorem plainTree_laws :
    OsLaws TreeWF (fun t s => decide (statKind t (cstr s) = some .dir))
      (fun t s => Fs.mkdir t (cstr s)) where
  mkdir_inv := fun t p ht => by
    rw [mkdir_eq]
    exact mkdirC_elim (Q := fun r => TreeWF r.1) t _ _ (fun _ _ => ht)
      fun pre par last hcs _ hpk hl1 hl2 hnone =>
        have ⟨hne, hsep, hnul⟩ := comps_mem _ last (by rw [hcs]; simp)
        addDir_wf t ht par last hpk ⟨hne, hsep, hnul (cstr_nul_free p), hl1, hl2⟩ hnone
  mkdir_ok_dir := fun t p t' _ hm => decide_eq_true (mkdir_ok_dir_mono t t' _ hm).1
  mkdir_fail := fun t p t' e _ hm =>
    (mkdirC_err t t' _ _ e (by rw [← mkdir_eq]; exact hm)).imp_right Zix.Errno.errnoStatus_ne_zero
  mkdir_mono := fun t p t' q _ hm hq =>
    decide_eq_true ((mkdir_ok_dir_mono t t' _ hm).2 _ (of_decide_eq_true hq))
  prefix_closed := fun t s k _ hd hk0 _ hb =>
    decide_eq_true <| cstr_prefix_closed (p := fun s => statKind t s = some .dir)
      (fun s k hd hk0 hk hb => by
        obtain ⟨rest, hrest⟩ := comps_take_prefix s k hk hb hk0
        rw [statKind_eq, headD_take _ k hk0]
        rw [statKind_eq, show comps s = _ from hrest] at hd
        exact statKindC_prefix t _ rest _ hd)
      s k (of_decide_eq_true hd) hk0 hb
  root_dir := fun t s ht hs hall => by
    have h0 : 0 ∉ s := fun h => by simpa [isSep, sep] using hall 0 h
    refine decide_eq_true ?_
    rw [cstr_eq_self s h0, statKind_eq, comps_seps s hall]
    exact statKindC_nil t ht.cwdDir _

open Zix.C15Link in
theorem createDirectories_agree (t : Tree) (s : List Nat) (h0 : 0 ∉ s) :
    FsLink.createDirectoriesG (fun t s => decide (statKind t (cstr s) = some .dir))
        (fun t s => Fs.mkdir t (cstr s)) t s
      = createDirectories t s := by
  rw [fs_createDirectories_eq]
  exact MkdirsWalk.createDirectoriesG_congr s (fun t k => by rw [cstr_take_self s h0 k])
    (fun t k => by rw [cstr_take_self s h0 k]) t

/-- `zix_create_directories` only ever adds directories: everything that existed still exists with
its kind, and everything new is a directory; the tree stays well formed. -/
theorem mkdirs_only_adds_dirs (t : Tree) (ht : TreeOK t) (s : List Nat) (h0 : 0 ∉ s) :
    TreeOK (createDirectories t s).1 ∧
    (∀ p k, (p, k) ∈ t.nodes → (p, k) ∈ (createDirectories t s).1.nodes) ∧
    (∀ p k, (p, k) ∈ (createDirectories t s).1.nodes → (p, k) ∈ t.nodes ∨ k = .dir) := by
  rw [← createDirectories_agree t s h0]
  have h := (C15Link.mkdirsG_dirs_stay
    (plainTree_laws.strengthen (P := fun t' => C15Link.Grown Kind.dir t.nodes t'.nodes)
      fun t1 p _ hg => hg.step ?_)
    t ⟨ht.wf, .refl ..⟩ s).1
  · exact ⟨⟨h.1.parents, h.1.names, h.1.nodup, h.1.cwdDir, h.1.cwdNames⟩, h.2⟩
  -- `mkdir` leaves the node table alone or appends one directory
  rw [mkdir_eq]
  exact mkdirC_elim
    (Q := fun r => r.1.nodes = t1.nodes ∨ ∃ q, r.1.nodes = t1.nodes ++ [(q, Kind.dir)]) t1 _ _
    (fun _ _ => .inl rfl) fun _ _ _ _ _ _ _ _ _ => .inr ⟨_, rfl⟩

/-- SUCCESS exactly when the path names a directory afterwards, for every path shape (relative or
absolute, repeated or trailing separators, dot segments, partly existing). -/
theorem mkdirs_success_iff_dir (t : Tree) (ht : TreeOK t) (s : List Nat) (h0 : 0 ∉ s) (hs : s ≠ []) :
    (createDirectories t s).2 = 0 ↔ statKind (createDirectories t s).1 s = some .dir := by
  have h := C15Link.mkdirsG_success_iff_dir plainTree_laws t ht.wf s h0 hs
  simpa only [createDirectories_agree t s h0, C15Link.cstr_eq_self s h0, decide_eq_true_eq] using h

/-- Idempotent: after a success a second call succeeds and changes nothing. -/
theorem mkdirs_idempotent (t : Tree) (ht : TreeOK t) (s : List Nat) (h0 : 0 ∉ s)
    (h : (createDirectories t s).2 = 0) :
    createDirectories (createDirectories t s).1 s = ((createDirectories t s).1, 0) := by
  have h' := C15Link.mkdirsG_idempotent plainTree_laws t ht.wf s h0
    (by rw [createDirectories_agree t s h0]; exact h)
  simpa only [createDirectories_agree _ s h0] using h'

/-- The empty path is a bad argument and nothing is created. -/
theorem mkdirs_empty (t : Tree) : createDirectories t [] = (t, 5) := by
  simp [createDirectories]

example :
    (createDirectories ⟨[([[83]], .dir), ([[83], [119]], .dir)], [[83], [119]]⟩
      [97, 47, 46, 46, 47, 98, 47]).2 = 0 := by decide

-- an empty file against a file that reports size 0 but holds bytes; such a file against its copy
example : fileEqualsSized [] [1, 2, 3] 0 0 false 4096 true = false := by decide

example : fileEqualsSized [1, 2, 3] [1, 2, 3] 0 3 false 2 false = true := by decide

end Zix.C15

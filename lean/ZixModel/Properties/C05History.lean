import ZixModel.Properties.C05
import ZixModel.Spec.RingHistory
/-! # C05 at the level of whole histories: the ring refines a bounded byte FIFO with transactions

Over EVERY sequence of calls made from one thread, starting at `zix_ring_new(s)`: the ring, seen
through `content`, IS the abstract bounded queue; every return value agrees; `read_space +
write_space` is the capacity in every reachable state; bytes amended in a transaction are invisible
until commit, appear contiguously as one write, and leave no trace when the transaction is
dropped. -/
namespace Zix.C05
open Zix.Ring

/-- the transaction part of the coupling: both closed, or both open with the same pending bytes and
the spec's budget equal to the free space the transaction still sees plus what it has amended -/
def TxRel (g : Ring) : Option Tx → Option (List Nat × Nat) → Prop
  | none, none => True
  | some tx, some (p, b) => TxOk g tx p ∧ b = writeSpaceAt g tx.r tx.w + p.length
  | _, _ => False

/-- `c` is the capacity, which no operation changes on either side -/
structure Coupled (c : Nat) (s : Impl) (sp : Spec) : Prop where
  wf : WF s.g
  cont : content s.g = sp.q
  cap : sp.cap = c
  size : s.g.size - 1 = c
  tx : TxRel s.g s.tx sp.pending

/-! `Impl.step` on `amend`, as equations with an explicit result.  The trap is that of `write_fun`
in `Lemmas/Ring.lean`: the kernel must not be given a stuck `amend g tx d` to compare.  There the
body is one `match`; here the matches on `Op` and on `s.tx` lie around the call, so their reduction
is done once for an abstract function `am` (`Impl.amendG`), and `Impl.step` is connected to it by a
syntactic `rfl`. -/

def Impl.amendG (am : Ring → Tx → List Nat → Option (Ring × Tx)) (s : Impl) (d : List Nat) :
    Impl × Out :=
    match s.tx with
    | none => (s, .misuse)
    | some tx =>
      match am s.g tx d with
      | some (g', tx') => (⟨g', some tx'⟩, .amended true)
      | none => (s, .amended false)

theorem Impl.step_amend_eq (s : Impl) (d : List Nat) :
    s.step (.amend d) = Impl.amendG amend s d := rfl

theorem Impl.amendG_some {am : Ring → Tx → List Nat → Option (Ring × Tx)} {g g' : Ring}
    {tx tx' : Tx} {d : List Nat} (e : am g tx d = some (g', tx')) :
    Impl.amendG am ⟨g, some tx⟩ d = (⟨g', some tx'⟩, .amended true) := by
  simp only [Impl.amendG, e]

theorem Impl.amendG_none {am : Ring → Tx → List Nat → Option (Ring × Tx)} {g : Ring}
    {tx : Tx} {d : List Nat} (e : am g tx d = none) :
    Impl.amendG am ⟨g, some tx⟩ d = (⟨g, some tx⟩, .amended false) := by
  simp only [Impl.amendG, e]

theorem Impl.step_amend_some {g g' : Ring} {tx tx' : Tx} {d : List Nat}
    (e : amend g tx d = some (g', tx')) :
    Impl.step ⟨g, some tx⟩ (.amend d) = (⟨g', some tx'⟩, .amended true) :=
  (Impl.step_amend_eq _ d).trans (Impl.amendG_some e)

theorem Impl.step_amend_none {g : Ring} {tx : Tx} {d : List Nat} (e : amend g tx d = none) :
    Impl.step ⟨g, some tx⟩ (.amend d) = (⟨g, some tx⟩, .amended false) :=
  (Impl.step_amend_eq _ d).trans (Impl.amendG_none e)

theorem TxRel.cases {g : Ring} {t : Option Tx} {pd : Option (List Nat × Nat)} (h : TxRel g t pd) :
    (t = none ∧ pd = none) ∨ ∃ tx p b, t = some tx ∧ pd = some (p, b) ∧ TxOk g tx p ∧
      b = writeSpaceAt g tx.r tx.w + p.length :=
  match t, pd, h with
  | none, none, _ => Or.inl ⟨rfl, rfl⟩
  | some tx, some (p, b), h => Or.inr ⟨tx, p, b, rfl, rfl, h⟩
  | none, some _, h => h.elim
  | some _, none, h => h.elim

theorem TxRel.consume {g : Ring} (h : WF g) {n : Nat} (hn : n ≤ readSpace g)
    {t : Option Tx} {pd : Option (List Nat × Nat)} (ht : TxRel g t pd) :
    TxRel { g with r := (g.r + n) % g.size } t pd := by
  rcases ht.cases with ⟨rfl, rfl⟩ | ⟨tx, p, b, rfl, rfl, h1, h2⟩
  · exact True.intro
  · exact ⟨(consume_ok h hn).2.2 tx p h1, h2⟩

theorem Coupled.step {c : Nat} {s : Impl} {sp : Spec} (h : Coupled c s sp) (op : Op) :
    (s.step op).2 = (sp.step op).2 ∧ Coupled c (s.step op).1 (sp.step op).1 := by
  obtain ⟨g, t⟩ := s
  obtain ⟨cap, q, pd⟩ := sp
  obtain ⟨hwf, hc, hcap, hsize, htx⟩ := h
  simp only at hwf hc hcap hsize htx
  subst hc hcap hsize
  have hrs : readSpace g = (content g).length := (content_length g).symm
  have hws : writeSpace g = g.size - 1 - (content g).length := hrs ▸ writeSpace_eq hwf
  have same : Coupled (g.size - 1) ⟨g, t⟩ ⟨g.size - 1, content g, pd⟩ :=
    ⟨hwf, rfl, rfl, rfl, htx⟩
  have consumed : ∀ {n}, n ≤ (content g).length →
      Coupled (g.size - 1) ⟨{ g with r := (g.r + n) % g.size }, t⟩
        ⟨g.size - 1, (content g).drop n, pd⟩ :=
    fun hle =>
      let ⟨c1, c2, _⟩ := consume_ok hwf (hrs ▸ hle)
      ⟨c1, c2, rfl, rfl, htx.consume hwf (hrs ▸ hle)⟩
  cases op with
  | read n =>
    simp only [Impl.step, Spec.step]
    rw [read_eq hwf n, hrs]
    split
    · exact ⟨rfl, consumed ‹_›⟩
    · exact ⟨rfl, same⟩
  | skip n =>
    simp only [Impl.step, Spec.step]
    rw [skip_eq hwf n, hrs]
    split
    · exact ⟨rfl, consumed ‹_›⟩
    · exact ⟨rfl, same⟩
  | peek n =>
    simp only [Impl.step, Spec.step]
    rw [peek_eq hwf n, hrs]
    split <;> exact ⟨rfl, same⟩
  | abandon => exact ⟨rfl, hwf, rfl, rfl, rfl, True.intro⟩
  | write d =>
    rcases htx.cases with ⟨rfl, rfl⟩ | ⟨tx, p, b, rfl, rfl, _, _⟩
    · simp only [Impl.step, Spec.step]
      rw [write_eq hwf d, hws]
      split
      · rename_i hd
        obtain ⟨c1, c2⟩ := produce_ok hwf (by rw [hws]; exact hd)
        exact ⟨rfl, c1, c2, rfl, rfl, True.intro⟩
      · exact ⟨rfl, same⟩
    · exact ⟨rfl, same⟩
  | reset =>
    rcases htx.cases with ⟨rfl, rfl⟩ | ⟨tx, p, b, rfl, rfl, _, _⟩
    · obtain ⟨r1, r2⟩ := reset_refines g hwf
      exact ⟨rfl, r1, r2, rfl, rfl, True.intro⟩
    · exact ⟨rfl, same⟩
  | begin_ =>
    rcases htx.cases with ⟨rfl, rfl⟩ | ⟨tx, p, b, rfl, rfl, _, _⟩
    · refine ⟨rfl, hwf, rfl, rfl, rfl, beginWrite_ok hwf, ?_⟩
      show g.size - 1 - (content g).length = writeSpace g + 0
      omega
    · exact ⟨rfl, same⟩
  | amend d =>
    rcases htx.cases with ⟨rfl, rfl⟩ | ⟨tx, p, b, rfl, rfl, hok, hb⟩
    · exact ⟨rfl, same⟩
    · simp only [Spec.step]
      by_cases hd : d.length ≤ writeSpaceAt g tx.r tx.w
      · obtain ⟨e, hwf', hc', hok'⟩ := amend_ok hwf hok hd
        rw [Impl.step_amend_some e, if_pos (by omega)]
        refine ⟨rfl, hwf', hc', rfl, rfl, hok', ?_⟩
        rw [writeSpaceAt_buf, writeSpaceAt_advance g hwf.pow hok.rlt hok.wlt hd,
          List.length_append]
        omega
      · rw [Impl.step_amend_none (amend_none g tx d (Nat.lt_of_not_le hd)), if_neg (by omega)]
        exact ⟨rfl, same⟩
  | commit =>
    rcases htx.cases with ⟨rfl, rfl⟩ | ⟨tx, p, b, rfl, rfl, hok, _⟩
    · exact ⟨rfl, same⟩
    · obtain ⟨c1, c2⟩ := commit_ok hwf hok
      exact ⟨rfl, c1, c2, rfl, rfl, True.intro⟩

theorem Impl.run_cons (s : Impl) (op : Op) (rest : List Op) :
    s.run (op :: rest) =
      (((s.step op).1.run rest).1, (s.step op).2 :: ((s.step op).1.run rest).2) := rfl

theorem Spec.run_cons (s : Spec) (op : Op) (rest : List Op) :
    s.run (op :: rest) =
      (((s.step op).1.run rest).1, (s.step op).2 :: ((s.step op).1.run rest).2) := rfl

theorem Coupled.run {c : Nat} {s : Impl} {sp : Spec} (h : Coupled c s sp) (ops : List Op) :
    (s.run ops).2 = (sp.run ops).2 ∧ Coupled c (s.run ops).1 (sp.run ops).1 := by
  induction ops generalizing s sp with
  | nil => exact ⟨rfl, h⟩
  | cons op rest ih =>
    obtain ⟨h1, h2⟩ := h.step op
    obtain ⟨h3, h4⟩ := ih h2
    rw [Impl.run_cons, Spec.run_cons]
    exact ⟨by rw [h1, h3], h4⟩

theorem Coupled.new (s : Nat) (h1 : 1 ≤ s) (h2 : s ≤ 2 ^ 31) :
    Coupled (nextPow2 s - 1) (Impl.new s) (Spec.new s) := by
  obtain ⟨hw, hc⟩ := new_wf s h1 h2
  exact ⟨hw, hc, rfl, rfl, True.intro⟩

/-- A row of amends only changes the pending bytes, to some `p'`: an amend over the budget `b` is
refused and the next one tried against the same `p`.  `p'` is known when all of them fit:
everything, in order. -/
theorem Spec.run_amends (cap : Nat) (q : List Nat) (b : Nat) (ops : List Op)
    (ds : List (List Nat)) (p : List Nat) :
    ∃ p', ((Spec.mk cap q (some (p, b))).run (ds.map Op.amend ++ ops)).1 =
        ((Spec.mk cap q (some (p', b))).run ops).1 ∧
      (p.length + ds.flatten.length ≤ b → p' = p ++ ds.flatten) := by
  induction ds generalizing p with
  | nil => exact ⟨p, rfl, fun _ => (List.append_nil p).symm⟩
  | cons d ds ih =>
    rw [List.map_cons, List.cons_append, Spec.run_cons, List.flatten_cons, List.length_append]
    simp only [Spec.step]
    split
    · obtain ⟨p', e, hp'⟩ := ih (p ++ d)
      exact ⟨p', e, fun h => by rw [hp' (by rw [List.length_append]; omega), List.append_assoc]⟩
    · obtain ⟨p', e, _⟩ := ih p
      exact ⟨p', e, fun h => by omega⟩

/-- **Refinement.**  Every history of single-thread calls on `zix_ring_new(s)` returns exactly what
the bounded FIFO returns, and the stored bytes are the FIFO's. -/
theorem ring_refines_queue (s : Nat) (h1 : 1 ≤ s) (h2 : s ≤ 2 ^ 31) (ops : List Op) :
    ((Impl.new s).run ops).2 = ((Spec.new s).run ops).2 ∧
    content ((Impl.new s).run ops).1.g = ((Spec.new s).run ops).1.q ∧
    WF ((Impl.new s).run ops).1.g := by
  obtain ⟨ho, hc⟩ := (Coupled.new s h1 h2).run ops
  exact ⟨ho, hc.cont, hc.wf⟩

/-- In every reachable state `read_space + write_space` is the capacity `nextPow2 s - 1`, and the
stored data never exceeds it. -/
theorem reachable_space_sum (s : Nat) (h1 : 1 ≤ s) (h2 : s ≤ 2 ^ 31) (ops : List Op) :
    let g := ((Impl.new s).run ops).1.g
    readSpace g + writeSpace g = nextPow2 s - 1 ∧ (content g).length ≤ nextPow2 s - 1 := by
  intro g
  obtain ⟨_, hc⟩ := (Coupled.new s h1 h2).run ops
  have hsum := ring_space_sum g hc.wf
  rw [capacity_eq g hc.wf.pow, hc.size] at hsum
  have hlen := content_length g
  exact ⟨hsum, by omega⟩

/-- An uncommitted transaction leaves no trace: dropping it instead of never opening it gives the
same outputs for every continuation.  (Stated on the specification, to which the implementation is
equivalent by `ring_refines_queue`.) -/
theorem spec_abandon_no_trace (s : Spec) (hs : s.pending = none) (ds : List (List Nat)) (rest : List Op) :
    ((s.run (Op.begin_ :: (ds.map Op.amend ++ [Op.abandon]))).1.run rest).2 = (s.run rest).2 ∧
    (s.run (Op.begin_ :: (ds.map Op.amend ++ [Op.abandon]))).1 = s := by
  obtain ⟨cap, q, pd⟩ := s
  subst hs
  obtain ⟨p', e, _⟩ := Spec.run_amends cap q (cap - q.length) [.abandon] ds []
  have e' : ((Spec.mk cap q none).run (Op.begin_ :: (ds.map Op.amend ++ [Op.abandon]))).1 =
      Spec.mk cap q none := e
  rw [e']
  exact ⟨rfl, rfl⟩

/-- A committed transaction is one write of the concatenated amended bytes (when they all fit). -/
theorem spec_commit_is_one_write (s : Spec) (hs : s.pending = none) (ds : List (List Nat))
    (hfit : (ds.flatten).length ≤ s.cap - s.q.length) :
    (s.run (Op.begin_ :: (ds.map Op.amend ++ [Op.commit]))).1 = (s.step (Op.write ds.flatten)).1 := by
  obtain ⟨cap, q, pd⟩ := s
  simp only at hs hfit
  subst hs
  obtain ⟨p', e, hp'⟩ := Spec.run_amends cap q (cap - q.length) [.commit] ds []
  show ((Spec.mk cap q (some ([], cap - q.length))).run (ds.map Op.amend ++ [Op.commit])).1 = _
  rw [e, hp' (by rw [List.length_nil]; omega), List.nil_append]
  simp only [Spec.step]
  rw [if_pos hfit]
  rfl

/-! non-vacuity: size 5 rounds to 8 (capacity 7); wrap-around; a transaction that overflows;
misuse -/
example :
    ((Impl.new 5).run [.write [1, 2, 3, 4, 5], .read 3, .write [6, 7, 8, 9, 10], .write [11],
      .peek 2, .begin_, .amend [12], .amend [13], .read 7, .commit, .read 1, .amend [1]]).2 =
    [.wrote 5, .data (some [1, 2, 3]), .wrote 5, .wrote 0, .data (some [4, 5]), .done,
      .amended false, .amended false, .data (some [4, 5, 6, 7, 8, 9, 10]), .done, .data none,
      .misuse] := by decide

end Zix.C05

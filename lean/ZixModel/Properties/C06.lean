import ZixModel.Lemmas.Avl
/-! # C06 — ZixTree is a balanced sorted (multi)set with stable bidirectional iterators -/
namespace Zix.C06
open Zix.Avl

/-- Inserting into a balanced sorted tree (duplicates allowed) keeps it balanced, reports height
growth correctly, and the in-order sequence is the old one with the new element placed after all
elements with key ≤ e — so equal keys stay in insertion order and every other node keeps its
identity and key (iterator stability). -/
theorem insert_dups (t : T) (hb : Balanced t) (hs : Sorted t) (e : Int) (id : Nat) :
    ∃ t' grew, insertAux true e id t = .done t' grew ∧ Balanced t' ∧ Sorted t' ∧
      t'.inorder = listInsert e id t.inorder ∧
      t'.height = t.height + (if grew then 1 else 0) := by
  rcases insertAux_spec true e id t hs with ⟨hd, _⟩ | ⟨_, t', grew, hres, hI, hG⟩
  · exact absurd hd (by decide)
  · exact ⟨t', grew, hres, (hG.balanced hb).1, listInsert_sorted hI hs, hI, (hG.balanced hb).2⟩

/-- Without duplicates: an equal key is refused with EXISTS naming the existing element and the
tree is unchanged; otherwise as above. -/
theorem insert_nodups (t : T) (hb : Balanced t) (hs : StrictSorted t) (e : Int) (id : Nat) :
    (∃ i, insertAux false e id t = .exists_ i ∧ (i, e) ∈ t.inorder) ∨
    (e ∉ t.inorder.map (·.2) ∧ ∃ t' grew, insertAux false e id t = .done t' grew ∧ Balanced t' ∧
      StrictSorted t' ∧ t'.inorder = listInsert e id t.inorder ∧
      t'.height = t.height + (if grew then 1 else 0)) := by
  rcases insertAux_spec false e id t (hs.imp Int.le_of_lt) with
    ⟨_, i, hx, hmem⟩ | ⟨hnot, t', grew, hres, hI, hG⟩
  · exact Or.inl ⟨i, hx, hmem⟩
  · exact Or.inr ⟨hnot rfl, t', grew, hres, (hG.balanced hb).1,
      listInsert_strict hI hs (hnot rfl), hI, (hG.balanced hb).2⟩

/-- Removing the node with a given id from a balanced tree keeps it balanced, reports the height
loss correctly, and the in-order sequence is the old one without exactly that element: every
other element keeps its identity, key and relative order. -/
theorem remove_spec (t : T) (hb : Balanced t) (id : Nat)
    (hid : (t.inorder.map (·.1)).Nodup) (hin : id ∈ t.inorder.map (·.1)) :
    ∃ t' shrunk, removeId id t = some (t', shrunk) ∧ Balanced t' ∧
      t'.inorder = t.inorder.filter (fun p => p.1 ≠ id) ∧
      t.height = t'.height + (if shrunk then 1 else 0) := by
  obtain ⟨p, pre, k, post, hres, hT, hI, hS⟩ := removeId_spec id t hin
  refine ⟨p.1, p.2, hres, (hS.balanced hb).1, ?_, (hS.balanced hb).2⟩
  rw [hI, hT, filter_ne_split (hT ▸ hid)]

theorem remove_absent (t : T) (id : Nat) (hin : id ∉ t.inorder.map (·.1)) : removeId id t = none :=
  removeId_none id t hin

/-- A balanced tree of height h has at least fib(h+2) − 1 nodes. -/
theorem avl_height_bound (t : T) (hb : Balanced t) : fib (t.height + 2) ≤ t.size + 1 :=
  fib_height_bound (BalH.of_balanced hb)

/-- `find` makes at most `height` comparisons and succeeds exactly when the key is stored,
returning an element with that key. -/
theorem find_spec (t : T) (hs : Sorted t) (e : Int) :
    ((find e t 0).2 ≤ t.height) ∧
    (∀ i, (find e t 0).1 = some i → (i, e) ∈ t.inorder) ∧
    ((find e t 0).1 = none ↔ e ∉ t.inorder.map (·.2)) :=
  find_spec_from e t hs 0

/-- `zix_tree_free` walks the tree in post-order: it destroys each element exactly once. -/
theorem postorder_perm_inorder (t : T) : t.postorder.Perm t.inorder := by
  induction t with
  | nil => exact List.Perm.refl _
  | node l i k b r ihl ihr =>
    rw [T.postorder, T.inorder, List.append_assoc]
    exact ihl.append ((List.perm_append_singleton _ _).trans (ihr.cons _))

/-- `TreeInv` holds of `zix_tree_new` … -/
theorem inv_new (d : Bool) : TreeInv (Tree.new d) := by
  refine ⟨trivial, ?_, rfl, ?_, ?_⟩
  · cases d <;> simp [Tree.new, Sorted, StrictSorted, T.inorder]
  · intro p hp; simp [Tree.new, T.inorder] at hp
  · simp [Tree.new, T.inorder]

/-- … and is kept by every insert, whatever it reports (a refused duplicate leaves the tree as it
is), … -/
theorem inv_insert (t : Tree) (h : TreeInv t) (e : Int) : TreeInv (t.insert e).1 := by
  fun_cases Tree.insert t e with
  | case1 i hres => exact h
  | case2 r g hres => exact h.insert_done hres

/-- … and by every remove. -/
theorem inv_remove (t : Tree) (h : TreeInv t) (id : Nat) (t' : Tree) (hr : t.remove id = some t') :
    TreeInv t' := by
  revert hr
  fun_cases Tree.remove t id with
  | case1 r s hres =>
    intro hr
    cases hr
    exact h.remove_some hres
  | case2 => nofun

example : Balanced (T.node (T.node .nil 1 1 0 .nil) 2 2 0 (T.node .nil 3 3 0 .nil)) := by
  simp [Balanced, T.height]

example : ((Tree.new true).insert 5).1.root = T.node .nil 1 5 0 .nil := by decide

end Zix.C06

import ZixModel.Properties.C01History
import ZixModel.Properties.C03
import ZixModel.Properties.C06
import ZixModel.Model.Avl
/-! # C07 — allocation failure is reported, atomic, leak-free and survivable

The component theorems already quantify over allocation oracles; these corollaries state the C07
reading of them explicitly. -/
namespace Zix.C07
open Zix.BTree

/-- B-tree: for an ARBITRARY oracle `fails : Nat → Bool` (any pattern of refused requests, not only
"single" or "persistent"), an insertion that reports NO_MEM leaves the contents exactly as they
were, was caused by a request the oracle refused during this call, and the tree stays well formed —
so it remains usable: the invariant survives whatever else is refused (`btree_wf_invariant`), and
from any well-formed tree a history whose requests are all granted refines the sorted set
(`btree_refines_sorted_set`). -/
theorem btree_insert_fault_atomic (c : Cfg) (hc : c.Valid) (fails : Nat → Bool) (a : AllocSt) (t : Tree) (e : Nat)
    (h : WF c t) :
    WF c (t.insert c fails a e).2.1 ∧
    ((t.insert c fails a e).2.2.1 = .noMem →
      (t.insert c fails a e).2.1.root.elems = t.root.elems ∧ (t.insert c fails a e).2.1.size = t.size ∧
      ∃ k, a.reqs ≤ k ∧ k < (t.insert c fails a e).1.reqs ∧ fails k = true) :=
  ⟨(Zix.C01.insert_refines c hc fails a t e h).1,
   (Zix.C01.insert_refines c hc fails a t e h).2.2.2.1⟩

/-- B-tree: whatever the allocator refuses during any history, the representation invariant holds
afterwards (the object remains fully usable). -/
theorem btree_survives_any_faults (c : Cfg) (hc : c.Valid) (fails : Nat → Bool) (ops : List Zix.C01.Op)
    (s : AllocSt × Tree) (h : WF c s.2) : WF c (Zix.C01.runImpl c fails s ops).1.2 :=
  Zix.C01.btree_wf_invariant c hc fails ops s h

/-- B-tree construction: if either page is refused no tree is returned and the first page (if it
was granted) is released again. -/
theorem btree_new_fault (fails : Nat → Bool) (a : AllocSt) :
    (Tree.new fails a).2.1 = none →
      ((Tree.new fails a).2.2 = [.allocFail] ∨
       ∃ id, (Tree.new fails a).2.2 = [.alloc id, .allocFail, .free id]) := by
  intro h
  unfold Tree.new allocPage at *
  by_cases h1 : fails a.reqs = true
  · left; simp [h1]
  · right
    simp only [h1] at h ⊢
    by_cases h2 : fails (a.reqs + 1) = true
    · exact ⟨a.next, by simp [h2]⟩
    · simp [h2] at h

/-- AVL: an insertion whose node cannot be allocated changes nothing (and a duplicate is still
reported as EXISTS, since the search precedes the allocation). -/
theorem avl_insert_fault_atomic (t : Zix.Avl.Tree) (e : Int) :
    (t.insertMayFail e false).1 = t := by
  unfold Zix.Avl.Tree.insertMayFail
  split <;> simp

end Zix.C07

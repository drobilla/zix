import ZixModel.Lemmas.BTreeRemove
/-! # C01 (removal part) — `zix_btree_remove` refines sorted-set removal -/
namespace Zix.C01
open Zix.BTree

/-- For every well-formed tree and every element: the result is well formed; a stored element is
removed (SUCCESS, handed back, everything else untouched, size − 1); an absent element yields
NOT_FOUND, no out value, the end iterator, and unchanged contents (the shape may have been
restructured on the way down). -/
theorem remove_refines (c : Cfg) (hc : c.Valid) (t : Tree) (e : Nat) (h : WF c t) :
    WF c (t.remove c e).1 ∧
    (e ∈ t.root.elems →
        (t.remove c e).2.1 = .success ∧ (t.remove c e).2.2.1 = some e ∧
        (t.remove c e).1.root.elems = t.root.elems.erase e ∧ (t.remove c e).1.size + 1 = t.size) ∧
    (e ∉ t.root.elems →
        (t.remove c e).2.1 = .notFound ∧ (t.remove c e).2.2.1 = none ∧ (t.remove c e).2.2.2.1 = none ∧
        (t.remove c e).1.root.elems = t.root.elems ∧ (t.remove c e).1.size = t.size) := by
  rcases hr : t.remove c e with ⟨t', st, out, next, evs, cmps⟩
  obtain ⟨hwf, helems, -, -, hres⟩ := Rem.remove_main hc t e h hr
  refine ⟨hwf, fun he => ?_, fun he => ?_⟩
  · rw [if_pos he] at hres
    obtain ⟨hst, hout, hsize, -⟩ := hres
    have hpos : 0 < t.root.elems.length := List.length_pos_of_mem he
    have hsz := h.size
    exact ⟨hst, hout, helems, show t'.size + 1 = t.size by omega⟩
  · rw [if_neg he] at hres
    obtain ⟨hst, hout, hnext, hsize⟩ := hres
    exact ⟨hst, hout, hnext, by rw [helems, List.erase_of_not_mem he], hsize⟩

/-- The `next` iterator of a successful remove is at the removed element's in-order successor
(end if it was the largest) — for leaf-resident and internal-node-resident victims alike. -/
theorem remove_next_is_successor (c : Cfg) (hc : c.Valid) (t : Tree) (e : Nat) (h : WF c t)
    (he : e ∈ t.root.elems) :
    deref (t.remove c e).1.root (t.remove c e).2.2.2.1 = (t.root.elems.filter (fun v => e < v)).head? := by
  rcases hr : t.remove c e with ⟨t', st, out, next, evs, cmps⟩
  obtain ⟨-, -, -, -, hres⟩ := Rem.remove_main hc t e h hr
  rw [if_pos he] at hres
  obtain ⟨-, -, -, -, hderef, -⟩ := hres
  rw [List.head?_filter]
  exact hderef

/-- Removal never allocates: its allocator events are all releases. -/
theorem remove_events_are_frees (c : Cfg) (t : Tree) (e : Nat) :
    ∀ ev ∈ (t.remove c e).2.2.2.2.1, ∃ id, ev = .free id :=
  Rem.remove_evs c t e

end Zix.C01

import ZixModel.Properties.C06History
import ZixModel.Spec.AvlIter
/-! # C06: the parent-pointer iterators of ZixTree step through the in-order sequence

Together with `tree_refines_spec` (the in-order sequence is the abstract sorted list, and elements
keep their node identity) this is the iterator clause of C06 for every reachable tree. -/
namespace Zix.C06
open Zix.Avl

theorem inorderIds_node (l : T) (i : Nat) (k b : Int) (r : T) :
    inorderIds (.node l i k b r) = inorderIds l ++ i :: inorderIds r := by
  simp only [inorderIds, T.inorder, List.map_append, List.map_cons]

theorem length_inorderIds (t : T) : (inorderIds t).length = t.size := by
  simp only [inorderIds, List.length_map, size_eq_length]

theorem nodup_node {l : T} {i : Nat} {k b : Int} {r : T}
    (h : (inorderIds (.node l i k b r)).Nodup) :
    (inorderIds l).Nodup ∧ (inorderIds r).Nodup ∧ i ∉ inorderIds l ∧ i ∉ inorderIds r ∧
      ∀ x ∈ inorderIds l, x ∉ inorderIds r := by
  rw [inorderIds_node, List.nodup_append, List.nodup_cons] at h
  obtain ⟨h1, ⟨hir, h2⟩, h3⟩ := h
  exact ⟨h1, h2, fun hi => h3 i hi i List.mem_cons_self rfl, hir,
    fun x hx hxr => h3 x hx x (List.mem_cons_of_mem _ hxr) rfl⟩

theorem rootId_mem {t : T} {j : Nat} (h : rootId t = some j) : j ∈ inorderIds t := by
  cases t with
  | nil => cases h
  | node l i k b r =>
    cases h
    rw [inorderIds_node]
    exact List.mem_append_right _ List.mem_cons_self

theorem lookup_table_eq_none (t : T) (p : Option Nat) (x : Nat) :
    (table t p).lookup x = none ↔ x ∉ inorderIds t := by
  induction t generalizing p with
  | nil => simp [table, inorderIds, T.inorder]
  | node l i k b r ihl ihr =>
    simp only [table, List.lookup_cons, List.lookup_append, inorderIds_node, List.mem_append,
      List.mem_cons, not_or]
    by_cases h : x = i
    · simp [h]
    · have hbeq : (x == i) = false := beq_eq_false_iff_ne.2 h
      simp [h, hbeq, ihl, ihr]

/-- Subtree `s` sits in the table `tb` with parent pointer `p`. -/
def Emb (tb : List (Nat × NodeRec)) : T → Option Nat → Prop
  | .nil, _ => True
  | .node l i _ _ r, p =>
    tb.lookup i = some ⟨rootId l, rootId r, p⟩ ∧ Emb tb l (some i) ∧ Emb tb r (some i)

theorem emb_congr (tb1 tb2 : List (Nat × NodeRec)) (s : T) (p : Option Nat)
    (h : ∀ x ∈ inorderIds s, tb2.lookup x = tb1.lookup x) (he : Emb tb1 s p) : Emb tb2 s p := by
  induction s generalizing p with
  | nil => trivial
  | node l i k b r ihl ihr =>
    obtain ⟨h1, h2, h3⟩ := he
    rw [inorderIds_node] at h
    exact ⟨(h i (List.mem_append_right _ List.mem_cons_self)).trans h1,
      ihl _ (fun x hx => h x (List.mem_append_left _ hx)) h2,
      ihr _ (fun x hx => h x (List.mem_append_right _ (List.mem_cons_of_mem _ hx))) h3⟩

theorem emb_table (t : T) (p : Option Nat) (hid : (inorderIds t).Nodup) : Emb (table t p) t p := by
  induction t generalizing p with
  | nil => trivial
  | node l i k b r ihl ihr =>
    obtain ⟨hnl, hnr, hil, hir, hlr⟩ := nodup_node hid
    refine ⟨by simp only [table, List.lookup_cons, beq_self_eq_true], ?_, ?_⟩
    · refine emb_congr _ _ l _ (fun x hx => ?_) (ihl (some i) hnl)
      have hbeq : (x == i) = false := beq_eq_false_iff_ne.2 fun h => hil (h ▸ hx)
      cases h : (table l (some i)).lookup x with
      | none => exact absurd hx ((lookup_table_eq_none _ _ _).1 h)
      | some rec => simp only [table, List.lookup_cons, hbeq, List.lookup_append, h, Option.some_or]
    · refine emb_congr _ _ r _ (fun x hx => ?_) (ihr (some i) hnr)
      have hbeq : (x == i) = false := beq_eq_false_iff_ne.2 fun h => hir (h ▸ hx)
      simp only [table, List.lookup_cons, hbeq, List.lookup_append,
        (lookup_table_eq_none l _ x).2 fun h => hlr x h hx, Option.none_or]

theorem rootId_none {t : T} (h : rootId t = none) : inorderIds t = [] := by
  cases t with
  | nil => rfl
  | node l i k b r => cases h

theorem emb_leftOf {tb : List (Nat × NodeRec)} {l : T} {i : Nat} {k b : Int} {r : T}
    {p : Option Nat}
    (he : Emb tb (.node l i k b r) p) : leftOf tb i = rootId l := by
  simp only [leftOf, he.1, Option.bind_some]

theorem emb_rightOf {tb : List (Nat × NodeRec)} {l : T} {i : Nat} {k b : Int} {r : T}
    {p : Option Nat}
    (he : Emb tb (.node l i k b r) p) : rightOf tb i = rootId r := by
  simp only [rightOf, he.1, Option.bind_some]

theorem emb_parentOf {tb : List (Nat × NodeRec)} {s : T} {p : Option Nat} {j : Nat}
    (he : Emb tb s p) (hj : rootId s = some j) : parentOf tb j = p := by
  cases s with
  | nil => cases hj
  | node l i k b r =>
    cases hj
    simp only [parentOf, he.1, Option.bind_some]

theorem descendLeft_first (tb : List (Nat × NodeRec)) (s : T) :
    ∀ (p : Option Nat) (fuel j : Nat), Emb tb s p → s.size ≤ fuel → rootId s = some j →
      (inorderIds s).head? = some (descendLeft tb fuel j) := by
  induction s with
  | nil => intro p fuel j _ _ hj; cases hj
  | node l i k b r ihl _ =>
    intro p fuel j he hf hj
    cases hj
    cases fuel with
    | zero => cases hf
    | succ f =>
      rw [inorderIds_node, List.head?_append]
      cases hl : rootId l with
      | none => simp only [descendLeft, emb_leftOf he, hl, rootId_none hl, List.head?_nil,
          Option.none_or, List.head?_cons]
      | some jl =>
        have hf' : l.size ≤ f := by simp only [T.size] at hf; omega
        simp only [descendLeft, emb_leftOf he, hl, ihl (some i) f jl he.2.1 hf' hl, Option.some_or]

/-- `zix_tree_iter_next` over an arbitrary table with explicit fuels, so that it can be run on the
mirrored table too; `iterNext t` is `nextAt (table t none) t.size (t.size + 1)` by definition. -/
def nextAt (tb : List (Nat × NodeRec)) (fD fC : Nat) (i : Nat) : Option Nat :=
  match rightOf tb i with
  | some r => some (descendLeft tb fD r)
  | none => climbFromRight tb fC i

/-- The element following `x` in `L`; `d` if `x` is the last one. -/
def after (x : Nat) : List Nat → Option Nat → Option Nat
  | [], d => d
  | y :: ys, d => if y = x then ys.head?.or d else after x ys d

theorem after_cons_self (x : Nat) (ys : List Nat) (d : Option Nat) :
    after x (x :: ys) d = ys.head?.or d := if_pos rfl

theorem after_cons_of_ne {x y : Nat} (h : y ≠ x) (ys : List Nat) (d : Option Nat) :
    after x (y :: ys) d = after x ys d := if_neg h

theorem after_append_of_mem {x : Nat} {L1 : List Nat} (L2 : List Nat) (d : Option Nat)
    (h : x ∈ L1) :
    after x (L1 ++ L2) d = after x L1 (L2.head?.or d) := by
  induction L1 with
  | nil => cases h
  | cons y ys ih =>
    by_cases hy : y = x
    · subst hy
      rw [List.cons_append, after_cons_self, after_cons_self]
      cases ys <;> rfl
    · rw [List.cons_append, after_cons_of_ne hy, after_cons_of_ne hy]
      exact ih ((List.mem_cons.1 h).resolve_left (Ne.symm hy))

theorem after_append_of_not_mem {x : Nat} {L1 : List Nat} (L2 : List Nat) (d : Option Nat)
    (h : x ∉ L1) : after x (L1 ++ L2) d = after x L2 d := by
  induction L1 with
  | nil => rfl
  | cons y ys ih =>
    have hy : y ≠ x := fun e => h (e ▸ List.mem_cons_self)
    rw [List.cons_append, after_cons_of_ne hy]
    exact ih (fun hm => h (List.mem_cons_of_mem _ hm))

theorem after_getElem {L : List Nat} (hn : L.Nodup) (d : Option Nat) :
    ∀ {k x : Nat}, L[k]? = some x → after x L d = (L[k + 1]?).or d := by
  induction L with
  | nil => intro k x h; cases h
  | cons y ys ih =>
    intro k x h
    obtain ⟨hy, hn⟩ := List.nodup_cons.1 hn
    cases k with
    | zero =>
      cases h
      rw [after_cons_self, List.getElem?_cons_succ, List.head?_eq_getElem?]
    | succ k =>
      rw [List.getElem?_cons_succ] at h
      have hne : y ≠ x := fun e => hy (e ▸ List.mem_of_getElem? h)
      rw [after_cons_of_ne hne, List.getElem?_cons_succ]
      exact ih hn h

theorem after_reverse_getElem {L : List Nat} (hn : L.Nodup) :
    ∀ (d : Option Nat) {k x : Nat}, L[k]? = some x →
      after x L.reverse d = if k = 0 then d else L[k - 1]? := by
  induction L with
  | nil => intro d k x h; cases h
  | cons y ys ih =>
    intro d k x h
    obtain ⟨hy, hn⟩ := List.nodup_cons.1 hn
    rw [List.reverse_cons]
    cases k with
    | zero =>
      cases h
      rw [after_append_of_not_mem _ _ fun hm => hy (List.mem_reverse.1 hm), after_cons_self]
      rfl
    | succ k =>
      rw [List.getElem?_cons_succ] at h
      rw [after_append_of_mem _ _ (List.mem_reverse.2 (List.mem_of_getElem? h)), ih hn _ h]
      cases k <;> rfl

/-- Successor statement for a subtree `s` embedded in the table: the climb from the root of `s`
yields `up` (the nearest ancestor in whose left subtree `s` lies) given fuel at least `c`. -/
theorem nextAt_eq_after (tb : List (Nat × NodeRec)) (s : T) :
    ∀ (p up : Option Nat) (c fD fC j x : Nat), Emb tb s p → (inorderIds s).Nodup →
      rootId s = some j →
      (∀ fuel, climbFromRight tb (fuel + c) j = up) → s.size ≤ fD → c + s.size ≤ fC →
      x ∈ inorderIds s → nextAt tb fD fC x = after x (inorderIds s) up := by
  induction s with
  | nil => intro p up c fD fC j x _ _ hj; cases hj
  | node l i kk b r ihl ihr =>
    intro p up c fD fC j x he hid hj hup hfD hfC hx
    cases hj
    obtain ⟨hnl, hnr, _, _, hlr⟩ := nodup_node hid
    have hright := emb_rightOf he
    obtain ⟨_, hel, her⟩ := he
    simp only [T.size] at hfD hfC
    rw [inorderIds_node] at hx ⊢
    by_cases hxl : x ∈ inorderIds l
    · -- `x` in the left subtree: its climb ends at `i`
      rw [after_append_of_mem _ _ hxl]
      cases hl : rootId l with
      | none => rw [rootId_none hl] at hxl; cases hxl
      | some jl =>
        have hne : ¬ (rootId r = some jl) := fun h => hlr jl (rootId_mem hl) (rootId_mem h)
        have hclimb : ∀ fuel, climbFromRight tb (fuel + 1) jl = some i := fun fuel => by
          simp only [climbFromRight, emb_parentOf hel hl, hright, hne, if_false]
        exact ihl (some i) (some i) 1 fD fC jl x hel hnl hl hclimb (by omega) (by omega) hxl
    · rw [after_append_of_not_mem _ _ hxl]
      by_cases hxi : i = x
      · subst hxi
        rw [after_cons_self]
        cases hr : rootId r with
        | none =>
          rw [hr] at hright
          rw [rootId_none hr]
          simp only [nextAt, hright]
          exact Nat.sub_add_cancel (by omega : c ≤ fC) ▸ hup (fC - c)
        | some jr =>
          rw [hr] at hright
          simp only [nextAt, hright]
          rw [descendLeft_first tb r (some i) fD jr her (by omega) hr, Option.some_or]
      · -- `x` in the right subtree: its climb passes through `i`
        have hxr : x ∈ inorderIds r :=
          (List.mem_cons.1 ((List.mem_append.1 hx).resolve_left hxl)).resolve_left (Ne.symm hxi)
        rw [after_cons_of_ne hxi]
        cases hr : rootId r with
        | none => rw [rootId_none hr] at hxr; cases hxr
        | some jr =>
          have hclimb : ∀ fuel, climbFromRight tb (fuel + (c + 1)) jr = up := fun fuel => by
            simp only [climbFromRight, emb_parentOf her hr, hright, hr, if_true]
            exact hup fuel
          exact ihr (some i) up (c + 1) fD fC jr x her hnr hr hclimb (by omega) (by omega) hxr

/-! The backward functions are the forward ones on the mirror image: left and right exchanged in the
table, the subtree reflected, the in-order sequence reversed. -/

def flipRec (r : NodeRec) : NodeRec := ⟨r.right, r.left, r.parent⟩

def flipTb (tb : List (Nat × NodeRec)) : List (Nat × NodeRec) := tb.map fun p => (p.1, flipRec p.2)

def mirror : T → T
  | .nil => .nil
  | .node l i k b r => .node (mirror r) i k b (mirror l)

theorem lookup_flipTb (tb : List (Nat × NodeRec)) (i : Nat) :
    (flipTb tb).lookup i = (tb.lookup i).map flipRec := by
  induction tb with
  | nil => rfl
  | cons p tb ih =>
    obtain ⟨j, rec⟩ := p
    simp only [flipTb, List.map_cons, List.lookup_cons]
    cases i == j
    · exact ih
    · rfl

theorem leftOf_flipTb (tb : List (Nat × NodeRec)) (i : Nat) :
    leftOf (flipTb tb) i = rightOf tb i := by
  simp only [leftOf, rightOf, lookup_flipTb]
  cases tb.lookup i <;> rfl

theorem rightOf_flipTb (tb : List (Nat × NodeRec)) (i : Nat) :
    rightOf (flipTb tb) i = leftOf tb i := by
  simp only [leftOf, rightOf, lookup_flipTb]
  cases tb.lookup i <;> rfl

theorem parentOf_flipTb (tb : List (Nat × NodeRec)) (i : Nat) :
    parentOf (flipTb tb) i = parentOf tb i := by
  simp only [parentOf, lookup_flipTb]
  cases tb.lookup i <;> rfl

theorem descendRight_eq (tb : List (Nat × NodeRec)) (fuel i : Nat) :
    descendRight tb fuel i = descendLeft (flipTb tb) fuel i := by
  fun_induction descendRight tb fuel i with
  | case1 => rfl
  | case2 fuel i r h ih => rw [descendLeft, leftOf_flipTb, h]; exact ih
  | case3 fuel i h => rw [descendLeft, leftOf_flipTb, h]

theorem climbFromLeft_eq (tb : List (Nat × NodeRec)) (fuel i : Nat) :
    climbFromLeft tb fuel i = climbFromRight (flipTb tb) fuel i := by
  fun_induction climbFromLeft tb fuel i with
  | case1 => rfl
  | case2 fuel i p hp h ih =>
    simp only [climbFromRight, parentOf_flipTb, rightOf_flipTb, hp, h, if_true, ih]
  | case3 fuel i p hp h =>
    simp only [climbFromRight, parentOf_flipTb, rightOf_flipTb, hp, h, if_false]
  | case4 fuel i hp => simp only [climbFromRight, parentOf_flipTb, hp]

theorem rootId_mirror (s : T) : rootId (mirror s) = rootId s := by cases s <;> rfl

theorem size_mirror (s : T) : (mirror s).size = s.size := by
  induction s with
  | nil => rfl
  | node l i k b r ihl ihr => simp only [mirror, T.size, ihl, ihr]; omega

theorem inorderIds_mirror (s : T) : inorderIds (mirror s) = (inorderIds s).reverse := by
  induction s with
  | nil => rfl
  | node l i k b r ihl ihr =>
    simp only [mirror, inorderIds_node, ihl, ihr, List.reverse_append, List.reverse_cons,
      List.append_assoc, List.singleton_append]

theorem emb_mirror {tb : List (Nat × NodeRec)} {s : T} {p : Option Nat} (he : Emb tb s p) :
    Emb (flipTb tb) (mirror s) p := by
  induction s generalizing p with
  | nil => trivial
  | node l i k b r ihl ihr =>
    refine ⟨?_, ihr he.2.2, ihl he.2.1⟩
    rw [lookup_flipTb, he.1, rootId_mirror, rootId_mirror]
    rfl

theorem nextAt_root {tb : List (Nat × NodeRec)} {s : T} (he : Emb tb s none)
    (hid : (inorderIds s).Nodup) {x : Nat} (hx : x ∈ inorderIds s) :
    nextAt tb s.size (s.size + 1) x = after x (inorderIds s) none := by
  cases hr : rootId s with
  | none => rw [rootId_none hr] at hx; cases hx
  | some j =>
    have hclimb : ∀ fuel, climbFromRight tb (fuel + 0) j = none := fun fuel => by
      cases fuel with
      | zero => rfl
      | succ f => simp only [climbFromRight, emb_parentOf he hr]
    exact nextAt_eq_after tb s none none 0 _ _ j x he hid hr hclimb (Nat.le_refl _) (by omega) hx

theorem iterNext_after (t : T) (hid : (inorderIds t).Nodup) {x : Nat} (hx : x ∈ inorderIds t) :
    iterNext t x = after x (inorderIds t) none :=
  nextAt_root (emb_table t none hid) hid hx

theorem iterPrev_after (t : T) (hid : (inorderIds t).Nodup) {x : Nat} (hx : x ∈ inorderIds t) :
    iterPrev t x = after x (inorderIds t).reverse none := by
  have : iterPrev t x = nextAt (flipTb (table t none)) t.size (t.size + 1) x := by
    simp only [iterPrev, nextAt, rightOf_flipTb, descendRight_eq, climbFromLeft_eq]
    -- the two sides now differ only in which auxiliary matcher spells the `match`
    cases leftOf (table t none) x <;> rfl
  rw [this, ← size_mirror t, ← inorderIds_mirror]
  refine nextAt_root (emb_mirror (emb_table t none hid)) ?_ ?_
  · rw [inorderIds_mirror]; exact (List.reverse_perm _).nodup_iff.2 hid
  · rw [inorderIds_mirror]; exact List.mem_reverse.2 hx

theorem begin_is_first (t : T) (hid : (inorderIds t).Nodup) : iterBegin t = (inorderIds t).head? := by
  cases hr : rootId t with
  | none => simp only [iterBegin, hr, Option.map_none, rootId_none hr, List.head?_nil]
  | some j =>
    simp only [iterBegin, hr, Option.map_some]
    exact (descendLeft_first _ t none t.size j (emb_table t none hid) (Nat.le_refl _) hr).symm

theorem rbegin_is_last (t : T) (hid : (inorderIds t).Nodup) : iterRBegin t = (inorderIds t).getLast? := by
  cases hr : rootId t with
  | none => simp only [iterRBegin, hr, Option.map_none, rootId_none hr, List.getLast?_nil]
  | some j =>
    simp only [iterRBegin, hr, Option.map_some]
    rw [descendRight_eq, ← List.head?_reverse, ← inorderIds_mirror, ← size_mirror]
    exact (descendLeft_first _ _ none _ j (emb_mirror (emb_table t none hid)) (Nat.le_refl _)
      (by rw [rootId_mirror]; exact hr)).symm

/-- `next` of the element at in-order position `k` is the element at position `k + 1`, or the
end. -/
theorem next_is_successor (t : T) (hid : (inorderIds t).Nodup) (k : Nat) (i : Nat)
    (hk : (inorderIds t)[k]? = some i) : iterNext t i = (inorderIds t)[k + 1]? := by
  rw [iterNext_after t hid (List.mem_of_getElem? hk), after_getElem hid none hk, Option.or_none]

/-- `prev` of the element at in-order position `k + 1` is the element at position `k`; of the
first, the end. -/
theorem prev_is_predecessor (t : T) (hid : (inorderIds t).Nodup) (k : Nat) (i : Nat)
    (hk : (inorderIds t)[k]? = some i) : iterPrev t i = (if k = 0 then none else (inorderIds t)[k - 1]?) := by
  rw [iterPrev_after t hid (List.mem_of_getElem? hk), after_reverse_getElem hid none hk]

/-- The loop of `walkFrom` and `walkBack`, over any step function. -/
def walk (f : Nat → Option Nat) : Nat → Option Nat → List Nat
  | 0, _ => []
  | _ + 1, none => []
  | fuel + 1, some i => i :: walk f fuel (f i)

theorem walkFrom_eq_walk (t : T) : ∀ fuel o, walkFrom t fuel o = walk (iterNext t) fuel o
  | 0, _ => rfl
  | _ + 1, none => rfl
  | fuel + 1, some i => congrArg (i :: ·) (walkFrom_eq_walk t fuel _)

theorem walkBack_eq_walk (t : T) : ∀ fuel o, walkBack t fuel o = walk (iterPrev t) fuel o
  | 0, _ => rfl
  | _ + 1, none => rfl
  | fuel + 1, some i => congrArg (i :: ·) (walkBack_eq_walk t fuel _)

theorem walk_all {f : Nat → Option Nat} {L : List Nat} (hn : L.Nodup)
    (hf : ∀ x ∈ L, f x = after x L none) {fuel : Nat} (h : L.length < fuel) :
    walk f fuel L.head? = L := by
  suffices ∀ post pre fuel, L = pre ++ post → post.length < fuel →
      walk f fuel post.head? = post from
    this L [] fuel rfl h
  intro post
  induction post with
  | nil => intro _ fuel _ _; cases fuel <;> rfl
  | cons x post ih =>
    intro pre fuel hL hlen
    cases fuel with
    | zero => cases hlen
    | succ fuel =>
      have hx : x ∉ pre := fun hx =>
        (List.nodup_append.1 (hL ▸ hn)).2.2 x hx x List.mem_cons_self rfl
      show x :: walk f fuel (f x) = x :: post
      rw [hf x (hL ▸ List.mem_append_right _ List.mem_cons_self), hL,
        after_append_of_not_mem _ _ hx, after_cons_self, Option.or_none,
        ih (pre ++ [x]) fuel (by rw [hL, List.append_assoc]; rfl) (Nat.lt_of_succ_lt_succ hlen)]

/-- Forward iteration from begin visits every element exactly once, in sorted (in-order) order, and
then reaches the end; backward iteration from rbegin visits them in reverse. -/
theorem forward_walk (t : T) (hid : (inorderIds t).Nodup) :
    walkFrom t (t.size + 1) (iterBegin t) = inorderIds t := by
  rw [begin_is_first t hid, walkFrom_eq_walk]
  exact walk_all hid (fun x hx => iterNext_after t hid hx) (by rw [length_inorderIds]; omega)

theorem backward_walk (t : T) (hid : (inorderIds t).Nodup) :
    walkBack t (t.size + 1) (iterRBegin t) = (inorderIds t).reverse := by
  rw [rbegin_is_last t hid, ← List.head?_reverse, walkBack_eq_walk]
  exact walk_all ((List.reverse_perm _).nodup_iff.2 hid)
    (fun x hx => iterPrev_after t hid (List.mem_reverse.1 hx))
    (by rw [List.length_reverse, length_inorderIds]; omega)

/-- For every reachable tree (any history from `zix_tree_new`): both walks enumerate the abstract
sorted (multi)set's elements, forwards and backwards. -/
theorem reachable_walks (d : Bool) (ops : List Op) :
    let t := (runTree (Tree.new d) ops).1
    walkFrom t.root (t.size + 1) (iterBegin t.root) = (runSpec (Spec.new d) ops).1.elems.map (·.1) ∧
    walkBack t.root (t.size + 1) (iterRBegin t.root) = ((runSpec (Spec.new d) ops).1.elems.map (·.1)).reverse := by
  intro t
  obtain ⟨h1, _, hinv⟩ := tree_refines_spec d ops
  have hel : (runSpec (Spec.new d) ops).1.elems.map (·.1) = inorderIds t.root := by
    rw [← h1]; rfl
  rw [hel, hinv.size]
  exact ⟨forward_walk t.root hinv.nodup, backward_walk t.root hinv.nodup⟩

example :
    walkFrom
      (T.node (T.node .nil 2 3 0 .nil) 1 5 0 (T.node (T.node .nil 4 6 0 .nil) 3 8 (-1) .nil)) 5
      (iterBegin
        (T.node (T.node .nil 2 3 0 .nil) 1 5 0 (T.node (T.node .nil 4 6 0 .nil) 3 8 (-1) .nil))) =
    [2, 1, 4, 3] := by decide

end Zix.C06

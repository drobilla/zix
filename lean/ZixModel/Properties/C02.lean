import ZixModel.Spec.BTree
import ZixModel.Lemmas.BTreeIter
/-! # C02 — B-tree positional queries: lower_bound, begin, increment, equals

At the end the tree that shows why `begin` and `increment` need a valid geometry. (`find` is in
Properties/C01, `remove`'s `next` in Properties/C01Remove.) -/
namespace Zix.C02
open Zix.BTree

/-- All end iterators are equal, and an end iterator differs from every valid one. -/
theorem end_iterators_equal (p : List Nat) : iterEquals none none = true ∧ iterEquals none (some p) = false := by
  constructor <;> rfl

/-- Two iterators compare equal exactly when they are the same index path. -/
theorem iter_equals_iff (a b : Iter) : iterEquals a b = true ↔ a = b := by
  unfold iterEquals; simp

/-- In a well-formed tree two valid iterators are at the same position (same path) exactly when they
dereference to the same element. -/
theorem valid_iter_eq_iff_same_element (c : Cfg) (t : Tree) (h : WF c t) (p q : List Nat)
    (hp : ValidIter t.root p) (hq : ValidIter t.root q) :
    iterEquals (some p) (some q) = true ↔ deref t.root (some p) = deref t.root (some q) := by
  rw [iter_equals_iff]
  constructor
  · intro he; rw [he]
  · intro he
    rw [It.rank_spec c h.shape p hp, It.rank_spec c h.shape q hq,
      List.getElem?_inj (It.rank_lt c h.shape hp) (nodup_of_sorted h.sorted)] at he
    rw [It.rank_inj c h.shape p q (Or.inr hp) (Or.inr hq) he]

/-- `zix_btree_begin` is at the smallest element (end for an empty tree) and is valid.

CORRECTED: hypothesis `hc : c.Valid` added; without it the statement is false
(`It.begin_needs_valid` below). -/
-- ORIGINAL:
-- theorem begin_spec (c : Cfg) (t : Tree) (h : WF c t) :
--     deref t.root t.begin = t.root.elems.head? ∧ (∀ p, t.begin = some p → ValidIter t.root p)
theorem begin_spec (c : Cfg) (hc : c.Valid) (t : Tree) (h : WF c t) :
    deref t.root t.begin = t.root.elems.head? ∧ (∀ p, t.begin = some p → ValidIter t.root p) := by
  unfold Tree.begin
  by_cases hz : t.size = 0
  · have : t.root.elems = [] := List.eq_nil_of_length_eq_zero (by rw [← h.size]; exact hz)
    simp [hz, this, deref]
  · have hne : t.root.elems ≠ [] := by
      intro he
      apply hz
      rw [h.size, he]
      rfl
    obtain ⟨h1, h2⟩ := It.leftmost_spec c hc.leafMin_pos h.shape (Nat.le_refl _) hne
    simp only [hz, if_false]
    refine ⟨?_, fun p hp => by cases hp; exact h1⟩
    rw [It.rank_spec c h.shape _ h1, h2, List.head?_eq_getElem?]

/-- Incrementing a valid iterator moves to the next element in order, and to end after the last;
the result is again valid (or end).

CORRECTED: hypothesis `hc : c.Valid` added; without it the statement is false
(`It.increment_needs_valid` below). -/
-- ORIGINAL:
-- theorem increment_walks_inorder (c : Cfg) (t : Tree) (h : WF c t) (p : List Nat)
--     (hp : ValidIter t.root p) (pre post : List Nat) (v : Nat)
--     (hv : deref t.root (some p) = some v) (hs : t.root.elems = pre ++ v :: post) :
--     deref t.root (increment t.root p) = post.head? ∧
--     (∀ q, increment t.root p = some q → ValidIter t.root q)
theorem increment_walks_inorder (c : Cfg) (hc : c.Valid) (t : Tree) (h : WF c t) (p : List Nat)
    (hp : ValidIter t.root p)
    (pre post : List Nat) (v : Nat) (hv : deref t.root (some p) = some v) (hs : t.root.elems = pre ++ v :: post) :
    deref t.root (increment t.root p) = post.head? ∧
    (∀ q, increment t.root p = some q → ValidIter t.root q) := by
  obtain ⟨e1, e2⟩ := It.inc_rank c hc.leafMin_pos h.shape p hp
  have hr : t.root.elems[pre.length]? = t.root.elems[It.rank t.root p]? := by
    rw [← It.rank_spec c h.shape p hp, hv, hs]; simp
  rw [List.getElem?_inj (by rw [hs]; simp) (nodup_of_sorted h.sorted)] at hr
  refine ⟨?_, e2⟩
  rw [It.deref_pos c h.shape e2, e1, ← hr, hs, List.getElem?_append_right (Nat.le_add_right _ _),
    Nat.add_sub_cancel_left, List.getElem?_cons_succ, List.head?_eq_getElem?]

/-- `zix_btree_lower_bound` is at the first element that is not less than the key under the search
comparator (for a wildcard comparator: the first of the matching elements), or end if there is none;
the iterator is valid. -/
theorem lower_bound_spec (c : Cfg) (t : Tree) (h : WF c t) (cmp : Nat → Int) (hm : Compatible cmp t.root.elems) :
    deref t.root (t.lowerBound cmp).1 = t.root.elems.find? (fun v => decide (0 ≤ cmp v)) ∧
    (∀ p, (t.lowerBound cmp).1 = some p → ValidIter t.root p) := by
  have hmono := It.Mono.of_compatible h.sorted hm
  rw [It.lowerBound_eq, It.lbFinish_eq c cmp h.shape hmono]
  refine ⟨?_, It.popSpec_vi _ _⟩
  rw [It.deref_pos c h.shape (It.popSpec_vi _ _), It.lowerBoundNode_pos c cmp h.shape hmono,
    List.find?_eq_getElem?_findIdx]

/-- lower_bound costs O(log n) comparisons. -/
theorem lower_bound_comparisons (c : Cfg) (hc : c.Valid) (t : Tree) (h : WF c t) (cmp : Nat → Int) :
    (t.lowerBound cmp).2 ≤ height t.root * (Nat.log2 c.leafMax + 1) := by
  rw [It.lowerBound_eq]
  exact It.lowerBoundNode_cmps c hc cmp h.shape

end Zix.C02

namespace Zix.BTree.It

/-! `WF` alone does not exclude a degenerate geometry with `leafMin = 0` (`leafMax ≤ 2`, which the
page-size macros of btree.c never produce): then a non-root leaf may be empty, `begin` / `increment`
descend into it and point at no element. -/

/-- `Zix.C02.ValidIter` under the name the counterexample is stated with -/
def VI (root : Node) (p : List Nat) : Prop := ∃ n i, nodeAt root p = some (n, i) ∧ i < n.nVals

def badCfg : Cfg := ⟨2, 2, 8⟩
def badTree : Tree := ⟨.inode 1 [5, 7] [.leaf 2 [], .leaf 3 [], .leaf 4 []], 2, 0⟩

theorem badTree_elems : badTree.root.elems = [5, 7] := by
  simp [badTree, elems_inode, elems_leaf, interleave_cons_cons, interleave_cons_nil, interleave_nil]

theorem badTree_wf : WF badCfg badTree := by
  refine ⟨?_, badTree_elems ▸ by decide, badTree_elems ▸ rfl⟩
  simp [badTree, badCfg, height, shape_inode, shape_leaf, ShapeAll, Cfg.leafMin]

/-- counterexample to `begin_spec` without `c.Valid` -/
theorem begin_needs_valid : deref badTree.root badTree.begin = none ∧ badTree.root.elems.head? = some 5 := by
  rw [badTree_elems]; exact ⟨by decide, rfl⟩

/-- counterexample to `increment_walks_inorder` without `c.Valid`: the iterator at `5` (path `[0]`)
is valid, `elems = [] ++ 5 :: [7]`, but its increment `[1, 0]` points into an empty leaf. -/
theorem increment_needs_valid :
    VI badTree.root [0] ∧ deref badTree.root (some [0]) = some 5 ∧ badTree.root.elems = [] ++ 5 :: [7] ∧
    increment badTree.root [0] = some [1, 0] ∧ deref badTree.root (increment badTree.root [0]) = none ∧
    ¬ VI badTree.root [1, 0] := by
  refine ⟨(vi_single _ _).2 (by decide), by decide, by rw [badTree_elems]; rfl, by decide,
    by decide, ?_⟩
  rintro ⟨n, i, h1, h2⟩
  have : nodeAt badTree.root [1, 0] = some (.leaf 3 [], 0) := rfl
  rw [this] at h1; cases h1
  simp [nVals_leaf] at h2

end Zix.BTree.It

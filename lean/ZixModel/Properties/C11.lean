import ZixModel.Model.Path
import ZixModel.Spec.Cpp17Path
import ZixModel.Lemmas.PathNormal
import ZixModel.Spec.PathNormalForm
/-! # C11 — lexically_normal returns the C++17 normal form and is idempotent

Strings are NUL-free byte lists (`0 ∉ s`). -/
namespace Zix.C11
open Zix.Path

/-- `zix_path_lexically_normal` denotes the same path as the C++17 normal form of the input. -/
theorem normal_same_path_as_cpp17 (s : List Nat) (h0 : 0 ∉ s) :
    PathSpec.parse (normalize s) = PathSpec.normal s := by
  by_cases hs : s = []
  · subst hs; rfl
  · obtain ⟨root, st, b, hc, h1, h2⟩ := Norm.normalize_canon s h0 hs
    rw [h1, h2, Norm.parse_textR root st b hc.ok]

/-- The C++17 normal form is in normal form. -/
theorem cpp17_normal_is_normal (s : List Nat) (h0 : 0 ∉ s) (hs : s ≠ []) : IsNormal (PathSpec.normal s) := by
  obtain ⟨root, st, b, hc, -, h⟩ := Norm.normalize_canon s h0 hs
  exact h ▸ Norm.isNormal_pvR root st b hc

/-- Hence the result of `zix_path_lexically_normal` is in normal form, and its text has no repeated
separators (it is exactly the printed form of its path value); a non-empty input gives a non-empty
output. -/
theorem normal_form (s : List Nat) (h0 : 0 ∉ s) (hs : s ≠ []) :
    IsNormal (PathSpec.parse (normalize s)) ∧ normalize s = unparse (PathSpec.parse (normalize s)) ∧
      normalize s ≠ [] := by
  obtain ⟨root, st, b, hc, h, -⟩ := Norm.normalize_canon s h0 hs
  rw [h, Norm.parse_textR root st b hc.ok, Norm.unparse_pvR]
  exact ⟨Norm.isNormal_pvR root st b hc, rfl, Norm.textR_ne_nil root st b hc⟩

theorem normal_idempotent (s : List Nat) (h0 : 0 ∉ s) : normalize (normalize s) = normalize s := by
  by_cases hs : s = []
  · subst hs; rfl
  · obtain ⟨root, st, b, hc, h, -⟩ := Norm.normalize_canon s h0 hs
    rw [h, Norm.normalize_textR root st b hc]

/-- A path that is already normal (printed form of a normal path value) is returned unchanged. -/
theorem normal_fixes_normal_paths (p : PathSpec.P) (hn : IsNormal p) (hne : ∀ n ∈ p.names, 0 ∉ n ∧ sep ∉ n)
    (hnonempty : p.root = true ∨ p.names ≠ []) :
    normalize (unparse p) = unparse p := by
  obtain ⟨root, names⟩ := p
  obtain ⟨st, b, hc, h⟩ := Norm.pvR_of_isNormal root names hn hne hnonempty
  rw [h, Norm.unparse_pvR, Norm.normalize_textR root st b hc]

/-- The empty path stays empty; only a result that normalisation has emptied becomes dot. -/
theorem normal_empty : normalize [] = [] := by
  rfl

-- "//a/./b/../c/" → "/a/c/"
example : normalize [47, 47, 97, 47, 46, 47, 98, 47, 46, 46, 47, 99, 47] = [47, 97, 47, 99, 47] := by decide

end Zix.C11

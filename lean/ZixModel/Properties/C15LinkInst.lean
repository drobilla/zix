import ZixModel.Properties.C15Link
import ZixModel.Lemmas.FsLink
import ZixModel.Lemmas.Errno
/-! # The tree with symbolic links is an operating system in the sense of `OsLaws`

So every theorem of `Properties/C15Link.lean` holds for `FsLink.createDirectories` on every well
formed tree with symbolic links (relative or absolute targets, dangling links, loops). -/
namespace Zix.C15Link
open Zix.Path Zix.FsLink

/-- A tree in which every node's physical parent is a directory, nothing is listed twice, names are
real names (non-empty, no separator, no NUL, not "." or ".."), link targets contain no NUL, and the
working directory is a directory. -/
structure TreeOK (t : Tree) : Prop where
  parents : ∀ p k, (p, k) ∈ t.nodes → p ≠ [] ∧ t.lookup p.dropLast = some .dir
  names   : ∀ p k, (p, k) ∈ t.nodes → ∀ c ∈ p, c ≠ [] ∧ sep ∉ c ∧ 0 ∉ c ∧ c ≠ [dot] ∧ c ≠ [dot, dot]
  targets : ∀ p tgt, (p, Kind.link tgt) ∈ t.nodes → 0 ∉ tgt
  nodup   : (t.nodes.map (·.1)).Nodup
  cwdDir  : t.lookup t.cwd = some .dir
  cwdNames : ∀ c ∈ t.cwd, c ≠ [] ∧ sep ∉ c ∧ 0 ∉ c ∧ c ≠ [dot] ∧ c ≠ [dot, dot]

theorem addNode_ok (t : Tree) (ht : TreeOK t) (d : List (List Nat)) (n : List Nat) (kd : Kind)
    (hkd : kd = .dir ∨ kd = .file)
    (hd : t.lookup d = some .dir)
    (hn : Zix.Fs.GoodName n) (hnew : t.lookup (d ++ [n]) = none) :
    TreeOK (addNode t (d ++ [n]) kd) := by
  have h := Zix.Fs.TableOK.add (dir := Kind.dir)
    ⟨ht.parents, ht.names, ht.nodup, ht.cwdDir, ht.cwdNames⟩ kd hd hn hnew
  refine ⟨h.parents, h.names, fun p tgt hp => ?_, h.nodup, h.cwdDir, h.cwdNames⟩
  rcases List.mem_append.1 hp with hp | hp
  · exact ht.targets p tgt hp
  · rcases hkd with rfl | rfl <;> cases List.mem_singleton.1 hp

/-- The laws hold for the tree with symbolic links; strings are read up to their first NUL
(`cstr`). -/
theorem linkTree_laws :
    OsLaws TreeOK (fun t s => FsLink.isDir t (cstr s)) (fun t s => FsLink.mkdir t (cstr s)) where
  mkdir_inv := fun t p ht =>
    mkdir_elim (Q := fun r => TreeOK r.1) t (cstr p) (fun _ _ => ht)
      fun pre par last hcs _ hpk hl1 hl2 hnone =>
        have ⟨hne, hsep, hnul⟩ :=
          Zix.Fs.comps_mem _ last (show last ∈ comps (cstr p) by rw [hcs]; simp)
        addNode_ok t ht par last .dir (Or.inl rfl) hpk
          ⟨hne, hsep, hnul (cstr_nul_free p), hl1, hl2⟩ hnone
  mkdir_ok_dir := fun t p t' _ hm => mkdir_ok_isDir t t' _ hm
  mkdir_fail := fun t p t' e _ hm => (mkdir_err t t' _ e hm).imp_right Zix.Errno.errnoStatus_ne_zero
  mkdir_mono := fun t p t' q _ hm hq => by
    obtain ⟨_, par, last, _, _, _, _, _, _, ht'⟩ := mkdir_ok t t' _ hm
    have hle : Tree.le t t' := by rw [ht']; exact addNode_le t _ _
    exact isDir_le hle (by rw [ht']; rfl) _ hq
  prefix_closed := fun t s k _ hd hk0 _ hb =>
    cstr_prefix_closed (p := fun s => FsLink.isDir t s = true) (isDir_prefix t) s k hd hk0 hb
  root_dir := fun t s _ hs hall => by
    have h0 : 0 ∉ s := fun h => by simpa [isSep, sep] using hall 0 h
    rw [cstr_eq_self s h0]
    exact isDir_seps t s hs hall

theorem createDirectories_agree (t : Tree) (s : List Nat) (h0 : 0 ∉ s) :
    createDirectoriesG (fun t s => FsLink.isDir t (cstr s)) (fun t s => FsLink.mkdir t (cstr s))
        t s =
      FsLink.createDirectories t s :=
  MkdirsWalk.createDirectoriesG_congr s (fun _ k => by rw [cstr_take_self s h0 k])
    (fun _ k => by rw [cstr_take_self s h0 k]) t

/-- Hence, for trees with symbolic links: SUCCESS exactly when the path then names a directory
(following links). -/
theorem link_mkdirs_success_iff_dir (t : Tree) (ht : TreeOK t) (s : List Nat) (h0 : 0 ∉ s) (hs : s ≠ []) :
    (FsLink.createDirectories t s).2 = 0 ↔ FsLink.isDir (FsLink.createDirectories t s).1 s = true := by
  have h := mkdirsG_success_iff_dir linkTree_laws t ht s h0 hs
  simp only [createDirectories_agree t s h0, cstr_eq_self s h0] at h
  exact h

theorem link_mkdirs_idempotent (t : Tree) (ht : TreeOK t) (s : List Nat) (h0 : 0 ∉ s)
    (h : (FsLink.createDirectories t s).2 = 0) :
    FsLink.createDirectories (FsLink.createDirectories t s).1 s = ((FsLink.createDirectories t s).1, 0) := by
  have h' := mkdirsG_idempotent linkTree_laws t ht s h0
    (by rw [createDirectories_agree t s h0]; exact h)
  simp only [createDirectories_agree _ s h0] at h'
  exact h'

/-- Only directories are added; links and files are never touched. -/
theorem link_mkdirs_only_adds_dirs (t : Tree) (ht : TreeOK t) (s : List Nat) (h0 : 0 ∉ s) :
    TreeOK (FsLink.createDirectories t s).1 ∧
    (∀ p k, (p, k) ∈ t.nodes → (p, k) ∈ (FsLink.createDirectories t s).1.nodes) ∧
    (∀ p k, (p, k) ∈ (FsLink.createDirectories t s).1.nodes → (p, k) ∈ t.nodes ∨ k = .dir) := by
  rw [← createDirectories_agree t s h0]
  refine (mkdirsG_dirs_stay
    (linkTree_laws.strengthen (P := fun t' => Grown Kind.dir t.nodes t'.nodes)
      fun t1 p _ hg => hg.step ?_)
    t ⟨ht, .refl ..⟩ s).1
  -- `mkdir` leaves the node table alone or appends one directory
  exact mkdir_elim
    (Q := fun r => r.1.nodes = t1.nodes ∨ ∃ q, r.1.nodes = t1.nodes ++ [(q, .dir)]) t1 (cstr p)
    (fun _ _ => .inl rfl) fun _ _ _ _ _ _ _ _ _ => .inr ⟨_, rfl⟩

example : TreeOK demo := by
  constructor
  · intro p k h
    simp only [demo, List.mem_cons, Prod.mk.injEq, List.not_mem_nil, or_false] at h
    rcases h with ⟨h, _⟩ | ⟨h, _⟩ | ⟨h, _⟩ | ⟨h, _⟩
    all_goals subst h; decide
  · intro p k h
    simp only [demo, List.mem_cons, Prod.mk.injEq, List.not_mem_nil, or_false] at h
    rcases h with ⟨h, _⟩ | ⟨h, _⟩ | ⟨h, _⟩ | ⟨h, _⟩
    all_goals subst h; decide
  · intro p tgt h
    simp only [demo, List.mem_cons, Prod.mk.injEq, List.not_mem_nil, or_false, reduceCtorEq,
      and_false, false_or, Kind.link.injEq] at h
    rw [h.2]; decide
  · decide
  · decide
  · decide

end Zix.C15Link
